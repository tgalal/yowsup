/-
  The library's decoder (Model/Coder.lean: readString / readAttrs / nextTree / readNodes / decodeFrame)
  accepts every valid encoding (Model/WireSpec.lean: EncStr / EncAttrs / Enc / EncNodes / EncFrame)
  and returns exactly the encoded tree and the unread rest of the input.
-/
import YowsupVerif.Model.WireSpec
namespace Yow.Coder

theorem readInt8_cons (b : Nat) (r : Bytes) : readInt8 (b :: r) = .ok (b, r) := rfl

theorem readInt16_len (n : Nat) (r : Bytes) : readInt16 (n / 256 :: n % 256 :: r) = .ok (n, r) := by
  rw [readInt16, Nat.div_add_mod']

theorem readListSize_of_EncList {k h : Nat} {bh : Bytes} (e : EncList k h bh) (rest : Bytes) :
    readListSize h (bh ++ rest) = .ok (k, rest) := by
  cases e with
  | zero => rfl
  | short k hk => rfl
  | long k hk => exact readInt16_len k rest

theorem EncList_first {k h : Nat} {bh : Bytes} (e : EncList k h bh) : h = 248 ∨ h = 0 ∨ h = 249 := by
  cases e <;> simp

/- The big-endian digits of a length give the length back: `Nat.mod_mul` splits off one digit at a time. -/

theorem readInt20_len {n : Nat} (h : n < 1048576) (r : Bytes) :
    readInt20 (n / 65536 :: n / 256 % 256 :: n % 256 :: r) = .ok (n, r) := by
  have e1 : n % 65536 = n % 256 + 256 * (n / 256 % 256) := @Nat.mod_mul 256 256 n
  have e2 : n % 1048576 = n % 65536 + 65536 * (n / 65536 % 16) := @Nat.mod_mul 65536 16 n
  rw [Nat.mod_eq_of_lt h, e1, Nat.add_comm, Nat.add_comm (n % 256), Nat.mul_comm, Nat.mul_comm 256,
    ← Nat.add_assoc] at e2
  rw [readInt20, ← e2]

theorem readInt31_len {n : Nat} (h : n < 2147483648) (r : Bytes) :
    readInt31 (n / 16777216 :: n / 65536 % 256 :: n / 256 % 256 :: n % 256 :: r) = .ok (n, r) := by
  have e1 : n % 65536 = n % 256 + 256 * (n / 256 % 256) := @Nat.mod_mul 256 256 n
  have e2 : n % 16777216 = n % 65536 + 65536 * (n / 65536 % 256) := @Nat.mod_mul 65536 256 n
  have e3 : n % 2147483648 = n % 16777216 + 16777216 * (n / 16777216 % 128) := @Nat.mod_mul 16777216 128 n
  rw [Nat.mod_eq_of_lt h, e2, e1, Nat.add_comm, Nat.add_comm _ (65536 * _), Nat.add_comm (n % 256), Nat.mul_comm,
    Nat.mul_comm 65536, Nat.mul_comm 256, ← Nat.add_assoc, ← Nat.add_assoc] at e3
  rw [readInt31, ← e3]

/-- Only the hex alphabet has digits above 11, and there the decoder's shortcut for an odd number of digits computes the
    same character. -/
theorem packByte_spec {v b x : Nat} (h : packByte v b = some x) :
    unpackByte v x = some b ∧ x < 16 ∧ (11 < x → v = 251) ∧
    (v = 251 → (if x < 10 then x + 48 else x + 55) = b) := by
  grind [packByte, packHex, packNibble, unpackByte, unpackHex, unpackNibble]

@[elab_as_elim]
theorem packAll_induct {v : Nat} {motive : Bytes → List Nat → Prop} (nil : motive [] [])
    (cons : ∀ b bs x xs, packByte v b = some x → packAll v bs = some xs → motive bs xs → motive (b :: bs) (x :: xs))
    {s : Bytes} {ns : List Nat} (h : packAll v s = some ns) : motive s ns := by
  induction s generalizing ns with
  | nil => cases h; exact nil
  | cons b bs ih =>
    simp only [packAll] at h
    split at h
    · rename_i x xs hx hxs
      cases h
      exact cons b bs x xs hx hxs (ih hxs)
    · cases h

theorem packAll_length {v : Nat} {s : Bytes} {ns : List Nat} (h : packAll v s = some ns) :
    ns.length = s.length := by
  refine packAll_induct rfl ?_ h
  intro b bs x xs _ _ ih
  rw [List.length_cons, List.length_cons, ih]

theorem packAll_lt {v : Nat} {s : Bytes} {ns : List Nat} (h : packAll v s = some ns) :
    ∀ x ∈ ns, x < 16 := by
  refine packAll_induct (fun _ hx => absurd hx List.not_mem_nil) ?_ h
  intro b bs x xs hx _ ih y hy
  rcases List.mem_cons.1 hy with rfl | hy
  · exact (packByte_spec hx).2.1
  · exact ih y hy

/-- The decoder's loop gives the characters back.  Under the nibble alphabet the digits may be followed by the padding
    digit 15, which ends the loop; a last digit proper is never taken for padding, since that alphabet stops at 11. -/
theorem unpackLoop_packAll {v : Nat} {s : Bytes} {ns pad : List Nat} (h : packAll v s = some ns)
    (hp : pad = [] ∨ pad = [15] ∧ v = 255) : unpackLoop v (ns ++ pad) = some s := by
  refine packAll_induct ?_ ?_ h
  · rcases hp with rfl | ⟨rfl, rfl⟩ <;> rfl
  · intro b bs x xs hx _ ih
    obtain ⟨hunpack, _, hhex, _⟩ := packByte_spec hx
    rw [List.cons_append]
    cases hl : xs ++ pad with
    | nil =>
      rw [hl] at ih
      cases ih
      rw [unpackLoop, if_neg (fun hc => hc.2 (hhex hc.1)), hunpack]
      rfl
    | cons w r =>
      rw [hl] at ih
      simp only [unpackLoop, hunpack, ih]

theorem map_packAll_hex {s : Bytes} {ns : List Nat} (h : packAll 251 s = some ns) :
    ns.map (fun v => if v < 10 then v + 48 else v + 55) = s := by
  refine packAll_induct rfl ?_ h
  intro b bs x xs hx _ ih
  rw [List.map_cons, ih, (packByte_spec hx).2.2.2 rfl]

theorem packPairs_length (ns : List Nat) : (packPairs ns).length = (ns.length + 1) / 2 := by
  induction ns using packPairs.induct with
  | case1 => rfl
  | case2 a => simp [packPairs]
  | case3 a b r ih =>
    simp only [packPairs, List.length_cons, ih]
    exact (Nat.add_div_right (r.length + 1) (by decide : 0 < 2)).symm

theorem nibbles_byte {a b : Nat} (ha : a < 16) (hb : b < 16) :
    (a * 16 + b) / 16 % 16 = a ∧ (a * 16 + b) % 16 = b := by
  constructor
  · rw [Nat.add_comm, Nat.add_mul_div_right _ _ (by decide), Nat.div_eq_of_lt hb, Nat.zero_add, Nat.mod_eq_of_lt ha]
  · rw [Nat.mul_add_mod_self_right, Nat.mod_eq_of_lt hb]

theorem nibbles_packPairs (ns : List Nat) (h : ∀ x ∈ ns, x < 16) :
    nibbles (packPairs ns) = ns ++ if ns.length % 2 = 0 then [] else [15] := by
  induction ns using packPairs.induct with
  | case1 => rfl
  | case2 a => simp [packPairs, nibbles, nibbles_byte (h a (by simp)) (by decide : 15 < 16)]
  | case3 a b r ih =>
    have e := nibbles_byte (h a (by simp)) (h b (by simp))
    simp only [packPairs, nibbles, ih (fun x hx => h x (by simp [hx])), List.length_cons, e.1, e.2,
      Nat.add_mod_right r.length 2, List.cons_append]

/-- the count byte of a packed string: bit 7 says that the number of digits is odd, the rest is the number of bytes -/
theorem packedCount {l : Nat} (h : (l + 1) / 2 < 128) :
    (l % 2 * 128 + (l + 1) / 2) % 128 = (l + 1) / 2 ∧ (128 ≤ (l % 2 * 128 + (l + 1) / 2) % 256 ↔ l % 2 = 1) := by
  generalize (l + 1) / 2 = x at h ⊢
  have hx : x % 128 = x := Nat.mod_eq_of_lt h
  rcases Nat.mod_two_eq_zero_or_one l with h0 | h0 <;> rw [h0]
  · rw [Nat.zero_mul, Nat.zero_add, hx, Nat.mod_eq_of_lt (Nat.lt_trans h (by decide))]
    exact ⟨rfl, fun h' => absurd h (Nat.not_lt.2 h'), fun h' => absurd h' (by decide)⟩
  · rw [Nat.one_mul, Nat.add_mod_left, hx, Nat.mod_eq_of_lt (Nat.add_lt_add_left h 128)]
    exact ⟨rfl, fun _ => rfl, fun _ => Nat.le_add_right 128 x⟩

theorem readPacked8_packAll {v : Nat} {s : Bytes} {ns : List Nat} (h : packAll v s = some ns)
    (hv : v = 251 ∨ v = 255) (hl : (s.length + 1) / 2 < 128) (rest : Bytes) :
    readPacked8 v (((s.length % 2 * 128 + (s.length + 1) / 2) :: packPairs ns) ++ rest) = .ok (s, rest) := by
  have hlen := packAll_length h
  obtain ⟨hsz, hodd⟩ := packedCount hl
  have hpl : (s.length + 1) / 2 = (packPairs ns).length := by rw [packPairs_length, hlen]
  simp only [readPacked8, List.cons_append, readInt8, hsz.trans hpl, List.take_left', List.drop_left',
    nibbles_packPairs ns (packAll_lt h), hlen, hodd]
  rcases Nat.mod_two_eq_zero_or_one s.length with hp | hp
  · have e := unpackLoop_packAll h (.inl rfl)
    rw [List.append_nil] at e
    simp [hp, e]
  · rcases hv with rfl | rfl
    · simp [hp, map_packAll_hex h]
    · simp [hp, unpackLoop_packAll h (.inr ⟨rfl, rfl⟩)]

theorem readString_zero (d : Dict) (f : Nat) (data : Bytes) :
    readString d (f + 1) 0 data = .ok (none, data) := by
  simp [readString]

theorem readString_tok (d : Dict) (f : Nat) {i : Nat} {s : Str} (h1 : 2 < i) (h2 : i < 236)
    (h3 : d.primary[i]? = some s) (h4 : s ≠ []) (data : Bytes) :
    readString d (f + 1) i data = .ok (some s, data) := by
  cases s with
  | nil => exact absurd rfl h4
  | cons c cs => simp only [readString, if_pos (And.intro h1 h2), getToken, h3]

theorem readString_tok2 (d : Dict) (f : Nat) {j : Nat} {s : Str} (h1 : j < 1024)
    (h2 : d.secondary[j]? = some s) (h3 : s ≠ []) (data : Bytes) :
    readString d (f + 1) (236 + j / 256) (j % 256 :: data) = .ok (some s, data) := by
  cases s with
  | nil => exact absurd rfl h3
  | cons c cs =>
    have hq : j / 256 ≤ 3 := Nat.le_of_lt_succ (Nat.div_lt_of_lt_mul h1)
    have a4 : j % 256 + (236 + j / 256 - 236) * 256 = j := by rw [Nat.add_sub_cancel_left, Nat.mod_add_div']
    generalize j / 256 = q at hq a4 ⊢
    have a0 : 236 ≤ 236 + q := Nat.le_add_right 236 q
    simp only [readString, if_neg (fun h : 2 < 236 + q ∧ 236 + q < 236 => Nat.not_lt.2 a0 h.2),
      if_neg (fun h : 236 + q = 0 => absurd (h ▸ a0) (by decide)),
      if_pos (And.intro a0 (Nat.add_le_add_left hq 236)), readInt8, getTokenDouble, a4, h2]

theorem readString_jid_step (d : Dict) (f t1 t2 : Nat) (r1 r3 r4 : Bytes) (user : Option Str) (sv : Str)
    (hu : readString d f t1 r1 = .ok (user, t2 :: r3)) (hs : readString d f t2 r3 = .ok (some sv, r4)) :
    readString d (f + 1) 250 (t1 :: r1)
      = .ok (some (match user with | some u => u ++ 64 :: sv | none => sv), r4) := by
  rw [readString]
  simp only [readInt8, hu, hs]
  cases user <;> simp

theorem readString_packed (d : Dict) (f : Nat) {t : Nat} (ht : t = 251 ∨ t = 255) {data r : Bytes} {s : Bytes}
    (h : readPacked8 t data = .ok (s, r)) : readString d (f + 1) t data = .ok (some s, r) := by
  rcases ht with rfl | rfl <;> simp [readString, h]

theorem readString_raw8 (d : Dict) (f : Nat) (data : Bytes) :
    readString d (f + 1) 252 data =
      match readInt8 data with
      | .error e => .error e
      | .ok (n, r) => .ok (some (r.take n), r.drop n) := rfl

theorem readString_raw20 (d : Dict) (f : Nat) (data : Bytes) :
    readString d (f + 1) 253 data =
      match readInt20 data with
      | .error e => .error e
      | .ok (n, r) => .ok (some (r.take n), r.drop n) := rfl

theorem readString_raw31 (d : Dict) (f : Nat) (data : Bytes) :
    readString d (f + 1) 254 data =
      match readInt31 data with
      | .error e => .error e
      | .ok (n, r) => .ok (some (r.take n), r.drop n) := rfl

theorem EncStr_first {d : Dict} {s : Str} {t : Nat} {bt : Bytes} (h : EncStr d s t bt) :
    t ≠ 1 ∧ t ≠ 2 ∧ ¬(t = 248 ∨ t = 0 ∨ t = 249) := by
  cases h with
  | tok | tok2 => omega
  | _ => decide

theorem readString_of_EncStr (d : Dict) {s : Str} {t : Nat} {bt : Bytes} (h : EncStr d s t bt)
    (fuel : Nat) (hf : bt.length ≤ fuel) (rest : Bytes) :
    readString d (fuel + 1) t (bt ++ rest) = .ok (some s, rest) := by
  induction h generalizing fuel rest with
  | tok i s h1 h2 h3 h4 => exact readString_tok d fuel h1 h2 h3 h4 rest
  | tok2 j s h1 h2 h3 => exact readString_tok2 d fuel h1 h2 h3 rest
  | raw8 s h1 => simp only [readString_raw8, List.cons_append, readInt8, List.take_left, List.drop_left]
  | raw20 s h1 => simp only [readString_raw20, List.cons_append, readInt20_len h1, List.take_left, List.drop_left]
  | raw31 s h1 => simp only [readString_raw31, List.cons_append, readInt31_len h1, List.take_left, List.drop_left]
  | nib s ns h1 h2 h3 => exact readString_packed d fuel (.inr rfl) (readPacked8_packAll h2 (.inr rfl) h3 rest)
  | hex s ns h1 h2 h3 => exact readString_packed d fuel (.inl rfl) (readPacked8_packAll h2 (.inl rfl) h3 rest)
  | jid u sv t1 b1 t2 b2 _ _ ih1 ih2 =>
    simp only [List.length_cons, List.length_append] at hf
    cases fuel with
    | zero => exact absurd hf (Nat.not_succ_le_zero _)
    | succ g =>
      have hg : b1.length + (b2.length + 1) ≤ g := Nat.le_of_succ_le_succ hf
      rw [List.cons_append, List.append_assoc, List.cons_append]
      exact readString_jid_step d (g + 1) t1 t2 _ _ _ (some u) sv (ih1 g (Nat.le_trans (Nat.le_add_right _ _) hg) _)
        (ih2 g (Nat.le_trans (Nat.le_trans (Nat.le_succ _) (Nat.le_add_left _ _)) hg) rest)
  | jid0 sv t2 b2 _ ih2 =>
    simp only [List.length_cons] at hf
    cases fuel with
    | zero => exact absurd hf (Nat.not_succ_le_zero _)
    | succ g =>
      rw [List.cons_append, List.cons_append]
      exact readString_jid_step d (g + 1) 0 t2 _ _ _ none sv (readString_zero d g _)
        (ih2 g (Nat.le_of_succ_le (Nat.le_of_succ_le_succ hf)) rest)

theorem dictSet_fresh (acc : List (Str × Str)) (k v : Str) (h : k ∉ acc.map Prod.fst) :
    dictSet acc k v = acc ++ [(k, v)] := by
  unfold dictSet
  rw [if_neg]
  intro hc
  apply h
  simp only [List.any_eq_true, decide_eq_true_eq] at hc
  obtain ⟨p, hp, rfl⟩ := hc
  exact List.mem_map_of_mem hp

theorem readAttrs_of_EncAttrs (d : Dict) {attrs : List (Str × Str)} {ba : Bytes} (h : EncAttrs d attrs ba)
    (fuel : Nat) (hf : ba.length ≤ fuel) (acc : List (Str × Str)) (rest : Bytes)
    (hn : ((acc ++ attrs).map Prod.fst).Nodup) :
    readAttrs d (fuel + 1) attrs.length acc (ba ++ rest) = .ok (acc ++ attrs, rest) := by
  induction h generalizing acc rest with
  | nil => simp [readAttrs]
  | cons k v r t1 b1 t2 b2 br e1 e2 er ih =>
    simp only [List.length_cons, List.length_append] at hf
    have hb : b1.length ≤ fuel ∧ b2.length ≤ fuel ∧ br.length ≤ fuel := by omega
    have hk : k ∉ acc.map Prod.fst := by
      intro hk
      simp only [List.map_append, List.map_cons, List.nodup_append] at hn
      exact hn.2.2 k hk k (by simp) rfl
    rw [List.cons_append, List.append_assoc, List.cons_append, List.append_assoc, List.length_cons, readAttrs]
    simp only [readInt8, readString_of_EncStr d e1 fuel hb.1, readString_of_EncStr d e2 fuel hb.2.1,
      dictSet_fresh acc k v hk, ih hb.2.2 (acc ++ [(k, v)]) rest (by simpa using hn)]
    simp

/-- `nextTree` from the byte after a node's attributes, when the list size is even: a list of children, or content in
    one of its forms.  `fuel` is what `readNodes` gets for the children, `sfuel` what `readString` gets. -/
def readBody (d : Dict) (fuel sfuel : Nat) (tag : Str) (attrs : List (Str × Str)) (r5 : Bytes) : R Node :=
  match readInt8 r5 with
  | .error e => .error e
  | .ok (read2, r6) =>
    if read2 = 248 ∨ read2 = 0 ∨ read2 = 249 then
      match readListSize read2 r6 with
      | .error e => .error e
      | .ok (cnt, r7) =>
        match readNodes d fuel cnt r7 with
        | .error e => .error e
        | .ok (kids, r8) => .ok (.mk tag attrs none kids, r8)
    else if read2 = 252 then
      match readInt8 r6 with
      | .error e => .error e
      | .ok (n, r) => .ok (.mk tag attrs (some (r.take n)) [], r.drop n)
    else if read2 = 253 then
      match readInt20 r6 with
      | .error e => .error e
      | .ok (n, r) => .ok (.mk tag attrs (some (r.take n)) [], r.drop n)
    else if read2 = 254 then
      match readInt31 r6 with
      | .error e => .error e
      | .ok (n, r) => .ok (.mk tag attrs (some (r.take n)) [], r.drop n)
    else
      match readString d sfuel read2 r6 with
      | .error e => .error e
      | .ok (none, _) => .error .nullTag
      | .ok (some s, r) => .ok (.mk tag attrs (some s) [], r)

/-- The list size of a node with `n` attributes is `1 + 2n`, or `2 + 2n` when content or children follow; the decoder
    tells the two apart by parity and recovers `n` from either.  (Nat lemmas by hand: `omega` is slow on the `/` and `%`.) -/
theorem listSize {k : Nat} (hk : k = 1 ∨ k = 2) (n : Nat) :
    k + n * 2 ≠ 0 ∧ ((k + n * 2) % 2 = 1 ↔ k = 1) ∧ (k + n * 2 - 2 + (k + n * 2) % 2) / 2 = n := by
  rw [Nat.add_mul_mod_self_right]
  rcases hk with rfl | rfl
  · refine ⟨Nat.succ_ne_zero _ ∘ (Nat.add_comm 1 _ ▸ ·), Iff.intro (fun _ => rfl) (fun _ => rfl), ?_⟩
    cases n with
    | zero => rfl
    | succ m =>
      rw [Nat.succ_mul, ← Nat.add_assoc, Nat.add_sub_cancel, Nat.add_comm 1]
      exact (congrArg (· / 2) (Nat.succ_mul m 2).symm).trans (Nat.mul_div_cancel (m + 1) (by decide))
  · refine ⟨Nat.succ_ne_zero _ ∘ (Nat.add_comm 2 _ ▸ ·), Iff.intro (fun h => absurd h (by decide)) (fun h => absurd h (by decide)), ?_⟩
    rw [Nat.add_sub_cancel_left]
    exact Nat.mul_div_cancel n (by decide)

theorem nextTree_node (d : Dict) {tag : Str} {attrs : List (Str × Str)} {k h : Nat} {bh : Bytes} {t : Nat}
    {bt ba : Bytes} (hk : k = 1 ∨ k = 2) (e1 : EncList (k + attrs.length * 2) h bh) (e3 : EncStr d tag t bt)
    (e4 : EncAttrs d attrs ba) (e5 : keysNodup attrs) (f : Nat) (tl : Bytes) :
    nextTree d (f + 1) (h :: (bh ++ t :: (bt ++ (ba ++ tl)))) =
      if k = 1 then .ok (.mk tag attrs none [], tl)
      else readBody d f ((h :: (bh ++ t :: (bt ++ (ba ++ tl)))).length + 1) tag attrs tl := by
  obtain ⟨hpos, hodd, hcount⟩ := listSize hk attrs.length
  obtain ⟨hstart, hend, _⟩ := EncStr_first e3
  have hb : bt.length ≤ (h :: (bh ++ t :: (bt ++ (ba ++ tl)))).length ∧
      ba.length ≤ (h :: (bh ++ t :: (bt ++ (ba ++ tl)))).length := by
    simp only [List.length_cons, List.length_append]; omega
  have i1 := readString_of_EncStr d e3 _ hb.1 (ba ++ tl)
  have i2 := readAttrs_of_EncAttrs d e4 _ hb.2 [] tl e5
  rw [nextTree]
  simp only [readInt8, readListSize_of_EncList e1, if_neg hstart, if_neg hend, i1,
    if_neg hpos, hcount, i2, List.nil_append, hodd]
  rfl

theorem readBody_kids (d : Dict) {ks : List Node} {hk : Nat} {bhk : Bytes} (e7 : EncList ks.length hk bhk)
    (f sf : Nat) (tag : Str) (attrs : List (Str × Str)) (bk rest : Bytes)
    (ih : readNodes d f ks.length (bk ++ rest) = .ok (ks, rest)) :
    readBody d f sf tag attrs (hk :: (bhk ++ (bk ++ rest))) = .ok (.mk tag attrs none ks, rest) := by
  simp only [readBody, readInt8, if_pos (EncList_first e7), readListSize_of_EncList e7, ih]

/-- Content is read the way a string is: the three length-prefixed forms are repeated inline, the others go through
    `readString`. -/
theorem readBody_content (d : Dict) (f sf : Nat) (tag : Str) (attrs : List (Str × Str)) {c : Nat}
    (hc : ¬(c = 248 ∨ c = 0 ∨ c = 249)) (r : Bytes) :
    readBody d f (sf + 1) tag attrs (c :: r) =
      match readString d (sf + 1) c r with
      | .error e => .error e
      | .ok (none, _) => .error .nullTag
      | .ok (some s, r') => .ok (.mk tag attrs (some s) [], r') := by
  simp only [readBody, readInt8_cons, if_neg hc]
  by_cases h2 : c = 252
  · subst h2; rw [if_pos rfl, readString_raw8]; cases readInt8 r <;> rfl
  by_cases h3 : c = 253
  · subst h3; rw [if_neg h2, if_pos rfl, readString_raw20]; cases readInt20 r <;> rfl
  by_cases h4 : c = 254
  · subst h4; rw [if_neg h2, if_neg h3, if_pos rfl, readString_raw31]; cases readInt31 r <;> rfl
  rw [if_neg h2, if_neg h3, if_neg h4]

theorem Enc_length_pos {d : Dict} {n : Node} {bs : Bytes} (h : Enc d n bs) : 1 ≤ bs.length := by
  cases h <;> simp

/-- Trees and lists of siblings together, by induction on the fuel as the decoder recurses on it: the children of a node,
    the first of a list of siblings and the siblings after it are all read with one unit less. -/
theorem decode_of_Enc (d : Dict) (fuel : Nat) :
    (∀ {n bs}, Enc d n bs → bs.length ≤ fuel → ∀ rest, nextTree d fuel (bs ++ rest) = .ok (n, rest)) ∧
    (∀ {ns bs}, EncNodes d ns bs → bs.length + 2 ≤ fuel → ∀ rest,
      readNodes d fuel ns.length (bs ++ rest) = .ok (ns, rest)) := by
  induction fuel with
  | zero =>
    exact ⟨fun h hf => absurd (Nat.le_trans (Enc_length_pos h) hf) (by decide), fun _ hf => absurd hf (Nat.not_succ_le_zero _)⟩
  | succ f ih =>
    refine ⟨fun h hf rest => ?_, fun h hf rest => ?_⟩
    · cases h with
      | leaf tag attrs h bh t bt ba e1 e2 e3 e4 e5 =>
        simp only [List.cons_append, List.append_assoc]
        rw [nextTree_node d (.inl rfl) e1 e3 e4 e5, if_pos rfl]
      | content tag attrs data h bh t bt ba c bc e1 e2 e3 e4 e5 e6 =>
        simp only [List.cons_append, List.append_assoc]
        rw [nextTree_node d (.inr rfl) e1 e3 e4 e5, if_neg (by decide),
          readBody_content d f _ tag attrs (EncStr_first e6).2.2,
          readString_of_EncStr d e6 _ (by simp only [List.length_cons, List.length_append]; omega) rest]
      | kids tag attrs ks h bh t bt ba hk bhk bk e1 e2 e3 e4 e5 e6 e7 e8 =>
        simp only [List.length_cons, List.length_append] at hf
        simp only [List.cons_append, List.append_assoc]
        rw [nextTree_node d (.inr rfl) e1 e3 e4 e5, if_neg (by decide)]
        exact readBody_kids d e7 f _ tag attrs bk rest (ih.2 e8 (by omega) rest)
    · cases h with
      | nil => rfl
      | cons n ns b bs e1 e2 =>
        have hp := Enc_length_pos e1
        simp only [List.length_append] at hf
        rw [List.append_assoc, List.length_cons, readNodes, ih.1 e1 (by omega) (bs ++ rest)]
        simp only []
        rw [ih.2 e2 (by omega) rest]

theorem nextTree_of_Enc (d : Dict) {n : Node} {bs : Bytes} (h : Enc d n bs)
    (fuel : Nat) (hf : bs.length ≤ fuel) (rest : Bytes) :
    nextTree d fuel (bs ++ rest) = .ok (n, rest) :=
  (decode_of_Enc d fuel).1 h hf rest

theorem readNodes_of_EncNodes (d : Dict) {ns : List Node} {bs : Bytes} (h : EncNodes d ns bs)
    (fuel : Nat) (hf : bs.length + 2 ≤ fuel) (rest : Bytes) :
    readNodes d fuel ns.length (bs ++ rest) = .ok (ns, rest) :=
  (decode_of_Enc d fuel).2 h hf rest

theorem nextTree_whole {d : Dict} {n : Node} {bs : Bytes} (e : Enc d n bs) :
    nextTree d (bs.length + 1) bs = .ok (n, []) := by
  simpa using nextTree_of_Enc d e _ (Nat.le_succ _) []

theorem decodeFrame_plain (d : Dict) (inflate : Bytes → Option Bytes) {n : Node} {bs : Bytes} {flags : Nat}
    (e : Enc d n bs) (hfl : flags % 4 = 0) : decodeFrame d inflate (flags :: bs) = .ok n := by
  -- `flags % 4` is the two low bits: both are clear
  obtain ⟨h0, h1⟩ := Nat.add_eq_zero_iff.1 ((@Nat.mod_mul 2 2 flags).symm.trans hfl)
  have h1 : flags / 2 % 2 = 0 := (Nat.mul_eq_zero.1 h1).resolve_left (by decide)
  simp only [decodeFrame, h0, h1, Nat.zero_ne_one, if_false, and_false, nextTree_whole e]

theorem decodeFrame_of_EncFrame (d : Dict) (deflate : Bytes → Bytes) (inflate : Bytes → Option Bytes)
    (hz : ∀ x, inflate (deflate x) = some x) {n : Node} {fr : Bytes} (h : EncFrame d deflate n fr) :
    decodeFrame d inflate fr = .ok n := by
  cases h with
  | plain bs flags e hfl => exact decodeFrame_plain d inflate e hfl
  | deflated bs flags e hfl =>
    simp only [decodeFrame, if_pos hfl, if_neg (fun h : flags / 2 % 2 = 0 ∧ flags % 2 = 1 => absurd (h.1.symm.trans hfl) (by decide)), hz,
      nextTree_whole e]

end Yow.Coder
