/-
  What the library's encoder (Model/Coder.lean: writeString / writeAttrs / writeNode / writeNodes)
  emits for a well-formed tree is a valid encoding of that tree (Model/WireSpec.lean), and the encoder
  does not refuse a well-formed tree.
-/
import YowsupVerif.Model.WireSpec
namespace Yow.Coder

theorem indexOf?_some {s : Str} {l : List Str} {i : Nat} (h : indexOf? s l = some i) :
    l[i]? = some s ∧ i < l.length := by
  induction l generalizing i with
  | nil => simp [indexOf?] at h
  | cons t ts ih =>
    simp only [indexOf?] at h
    split at h
    · cases h; subst_vars; simp
    · cases hc : indexOf? s ts with
      | none => simp [hc] at h
      | some j =>
        simp [hc] at h; subst h
        have := ih hc
        simp [this.1]; omega

theorem getIndex_some {d : Dict} {s : Str} {i : Nat} {sec : Bool} (h : d.getIndex s = some (i, sec)) :
    indexOf? s (if sec then d.secondary else d.primary) = some i := by
  unfold Dict.getIndex at h
  split at h
  · cases h; assumption
  · split at h
    · cases h; assumption
    · cases h

theorem atIndex_split {s : Str} {a : Nat} (h : atIndex s = some a) :
    s = s.take a ++ 64 :: s.drop (a + 1) := by
  induction s generalizing a with
  | nil => simp [atIndex] at h
  | cons c cs ih =>
    simp only [atIndex] at h
    split at h
    · cases h; subst_vars; simp
    · cases hc : atIndex cs with
      | none => simp [hc] at h
      | some j =>
        simp [hc] at h; subst h
        have := ih hc
        simp only [List.take_succ_cons, List.drop_succ_cons, List.cons_append]
        rw [← this]

theorem writeListStart_EncList {k : Nat} (hk : k < 65536) :
    ∃ h bh, writeListStart k = h :: bh ∧ EncList k h bh ∧ (k ≠ 0 → h ≠ 0) := by
  unfold writeListStart
  split
  · subst_vars; exact ⟨0, [], rfl, EncList.zero, by simp⟩
  · split
    · refine ⟨248, [k], ?_, EncList.short k ‹_›, by simp⟩
      simp only [writeInt8]; rw [Nat.mod_eq_of_lt ‹_›]
    · refine ⟨249, [k / 256, k % 256], ?_, EncList.long k hk, by simp⟩
      simp only [writeInt16]
      rw [Nat.mod_eq_of_lt (Nat.div_lt_of_lt_mul hk)]

theorem tryPack_some {v : Nat} {s r : Bytes} (h : tryPack v s = some r) :
    ∃ ns, packAll v s = some ns ∧ s ≠ [] ∧ (s.length + 1) / 2 < 128 ∧
      r = v :: (s.length % 2 * 128 + (s.length + 1) / 2) :: packPairs ns := by
  unfold tryPack at h
  split at h
  · cases h
  · split at h
    · cases h
    · rename_i ns hns
      split at h
      · cases h
      · cases h
        refine ⟨ns, hns, ?_, by omega, rfl⟩
        -- nothing to pack gives no digits
        rintro rfl
        cases hns
        exact absurd rfl ‹¬([] : List Nat).isEmpty = true›

theorem writeBytes_EncStr (d : Dict) {s : Bytes} (hs : s.length < 2147483648) (p : Bool) :
    ∃ t bt, writeBytes s p = t :: bt ∧ EncStr d s t bt := by
  unfold writeBytes
  split
  · refine ⟨254, _, rfl, ?_⟩
    simp only [writeInt31, List.cons_append, List.nil_append]
    rw [Nat.mod_eq_of_lt (Nat.div_lt_of_lt_mul hs)]
    exact EncStr.raw31 s hs
  · have h20 : s.length < 1048576 := Nat.lt_of_not_le ‹_›
    split
    · refine ⟨253, _, rfl, ?_⟩
      simp only [writeInt20, List.cons_append, List.nil_append]
      rw [Nat.mod_eq_of_lt (Nat.div_lt_of_lt_mul h20)]
      exact EncStr.raw20 s h20
    · split
      · rename_i r hr
        cases p with
        | false => simp at hr
        | true =>
          simp only [if_true] at hr
          split at hr
          · rename_i r' hr'
            cases hr
            obtain ⟨ns, h1, h2, h3, rfl⟩ := tryPack_some hr'
            exact ⟨255, _, rfl, EncStr.nib s ns h2 h1 h3⟩
          · obtain ⟨ns, h1, h2, h3, rfl⟩ := tryPack_some hr
            exact ⟨251, _, rfl, EncStr.hex s ns h2 h1 h3⟩
      · have h8 : s.length < 256 := Nat.lt_of_not_le ‹_›
        refine ⟨252, _, rfl, ?_⟩
        simp only [writeInt8, List.cons_append, List.nil_append]
        rw [Nat.mod_eq_of_lt h8]
        exact EncStr.raw8 s h8

theorem lookup_some {d : Dict} {s : Str} {i : Nat} {sec : Bool} (h : d.lookup s = some (i, sec)) :
    d.getIndex s = some (i, sec) ∧ (sec = false → 2 < i) := by
  unfold Dict.lookup at h
  split at h
  · split at h
    · cases h
    · cases h; exact ⟨‹_›, fun _ => by omega⟩
  · rename_i hn
    cases sec with
    | false => exact absurd h (hn i)
    | true => exact ⟨h, fun hf => by cases hf⟩

theorem writeString_plain {d : Dict} {s : Str} {p : Bool} (hg : d.lookup s = none)
    (ha : ∀ a, atIndex s = some a → a < 1) : writeString d s p = writeBytes s p := by
  -- `hg` selects the last arm of the match on `d.lookup s`
  rw [writeString, hg]
  dsimp only
  split
  · rfl
  · rw [if_pos (ha _ ‹_›)]

theorem writeString_jid {d : Dict} {s : Str} {p : Bool} (hg : d.lookup s = none)
    {a : Nat} (ha : atIndex s = some a) (h1 : 1 ≤ a) :
    writeString d s p = 250 :: (writeString d (s.take a) true ++ writeString d (s.drop (a + 1)) false) := by
  rw [writeString, hg]
  dsimp only
  split
  · rename_i ha'; rw [ha] at ha'; cases ha'
  · rename_i a' ha'
    rw [ha] at ha'; cases ha'
    rw [if_neg (Nat.not_lt.2 h1)]

theorem writeBytes_nil (p : Bool) : writeBytes [] p = [252, 0] := by
  cases p <;> rfl

theorem writeString_EncStr (d : Dict) (hd : d.WF) {s : Str} (h : StrOK d s) (p : Bool) :
    ∃ t bt, writeString d s p = t :: bt ∧ EncStr d s t bt := by
  induction h generalizing p with
  | token s i sec hne hg =>
    obtain ⟨hgi, h2⟩ := lookup_some hg
    obtain ⟨hget, hlt⟩ := indexOf?_some (getIndex_some hgi)
    cases sec with
    | false =>
      exact ⟨i, [], by rw [writeString, hg], EncStr.tok i s (h2 rfl) (Nat.lt_of_lt_of_le hlt hd.1) hget hne⟩
    | true =>
      exact ⟨236 + i / 256, [i % 256], by rw [writeString, hg],
        EncStr.tok2 i s (Nat.lt_of_lt_of_le hlt hd.2) hget hne⟩
  | plain s hg ha hl =>
    rw [writeString_plain hg (fun a h => by rw [ha] at h; cases h)]
    exact writeBytes_EncStr d hl p
  | atFirst s hg ha hl =>
    rw [writeString_plain hg (fun a h => by rw [ha] at h; cases h; decide)]
    exact writeBytes_EncStr d hl p
  | jid s a hg ha h1 _ _ ih1 ih2 =>
    rw [writeString_jid hg ha h1]
    obtain ⟨t1, b1, e1, r1⟩ := ih1 true
    obtain ⟨t2, b2, e2, r2⟩ := ih2 false
    refine ⟨250, _, rfl, ?_⟩
    rw [e1, e2]
    have := EncStr.jid _ _ _ _ _ _ r1 r2
    rw [← atIndex_split ha] at this
    exact this

theorem strOK_of_length (d : Dict) (hne : ∀ i sec, d.lookup [] ≠ some (i, sec)) (s : Str) (h : s.length < 2147483648) :
    StrOK d s := by
  induction hn : s.length using Nat.strongRecOn generalizing s with
  | _ n ih =>
    subst hn
    cases hl : d.lookup s with
    | some r =>
      obtain ⟨i, sec⟩ := r
      refine StrOK.token s i sec ?_ hl
      intro hs; subst hs; exact hne i sec hl
    | none =>
      cases ha : atIndex s with
      | none => exact StrOK.plain s hl ha h
      | some a =>
        cases a with
        | zero => exact StrOK.atFirst s hl ha h
        | succ a =>
          have hlt := atIndex_lt s _ ha
          have ht : (s.take (a + 1)).length < s.length := Nat.lt_of_le_of_lt (List.length_take_le _ _) hlt
          have hd : (s.drop (a + 1 + 1)).length < s.length := by rw [List.length_drop]; omega
          exact StrOK.jid s (a + 1) hl ha (Nat.succ_le_succ (Nat.zero_le a))
            (ih _ ht _ (Nat.lt_trans ht h) rfl) (ih _ hd _ (Nat.lt_trans hd h) rfl)

theorem writeAttrs_EncAttrs (d : Dict) (hd : d.WF) {attrs : List (Str × Str)}
    (h : ∀ kv ∈ attrs, StrOK d kv.1 ∧ StrOK d kv.2) : EncAttrs d attrs (writeAttrs d attrs) := by
  induction attrs with
  | nil => exact EncAttrs.nil
  | cons kv r ih =>
    obtain ⟨k, v⟩ := kv
    have hkv := h (k, v) (by simp)
    obtain ⟨t1, b1, e1, r1⟩ := writeString_EncStr d hd hkv.1 false
    obtain ⟨t2, b2, e2, r2⟩ := writeString_EncStr d hd hkv.2 true
    have ihr := ih (fun kv hm => h kv (List.mem_cons_of_mem _ hm))
    simp only [writeAttrs]
    rw [e1, e2]
    exact EncAttrs.cons k v r t1 b1 t2 b2 _ r1 r2 ihr

/-- the list size `writeNode` announces: tag and attributes, and one more when content or children follow -/
theorem nodeSize (n : Nat) {data : Option Bytes} {ks : List Node}
    (h : ∀ b, data = some b → ks = [] ∧ b.length < 2147483648) :
    1 + n * 2 + (if ks.isEmpty then 0 else 1) + (if data.isSome then 1 else 0)
      = (if data = none ∧ ks = [] then 1 else 2) + n * 2 := by
  cases data with
  | none => cases ks <;> simp <;> omega
  | some b => simp [(h b rfl).1]; omega

mutual
theorem writeNode_Enc (d : Dict) (hd : d.WF) {n : Node} (h : WFNode d n) : Enc d n (writeNode d n) := by
  cases h with
  | mk tag attrs data ks htag hattrs hdata hal hkl hks =>
    obtain ⟨t, bt, et, rt⟩ := writeString_EncStr d hd htag false
    have ra := writeAttrs_EncAttrs d hd hattrs.1
    obtain ⟨hh, bh, eh, rh, hh0⟩ :=
      writeListStart_EncList (k := (if data = none ∧ ks = [] then 1 else 2) + attrs.length * 2) (by split <;> omega)
    simp only [writeNode.eq_def, nodeSize _ hdata, eh, et]
    cases data with
    | some b =>
      obtain ⟨rfl, hb⟩ := hdata b rfl
      obtain ⟨c, bc, ec, rc⟩ := writeBytes_EncStr d hb false
      simp only [ec, List.isEmpty_nil, if_true, List.append_nil, List.cons_append]
      exact Enc.content tag attrs b hh bh t bt _ c bc rh (hh0 (by simp)) rt ra hattrs.2 rc
    | none =>
      cases ks with
      | nil =>
        simp only [List.isEmpty_nil, if_true, List.append_nil, List.cons_append]
        exact Enc.leaf tag attrs hh bh t bt _ rh (hh0 (by simp)) rt ra hattrs.2
      | cons k ks' =>
        obtain ⟨hk, bhk, ek, rk, _⟩ := writeListStart_EncList hkl
        simp only [ek, List.isEmpty_cons, Bool.false_eq_true, if_false, List.cons_append, List.nil_append]
        exact Enc.kids tag attrs (k :: ks') hh bh t bt _ hk bhk _ rh (hh0 (by simp)) rt ra hattrs.2
          (by simp) rk (writeNodes_EncNodes d hd hks)

theorem writeNodes_EncNodes (d : Dict) (hd : d.WF) {ns : List Node} (h : WFNodes d ns) :
    EncNodes d ns (writeNodes d ns) := by
  cases h with
  | nil => rw [writeNodes]; exact EncNodes.nil
  | cons n ns hn hns =>
    rw [writeNodes]
    exact EncNodes.cons n ns _ _ (writeNode_Enc d hd hn) (writeNodes_EncNodes d hd hns)
end

mutual
theorem encodable_of_WFNode (d : Dict) {n : Node} (h : WFNode d n) : encodable d n = true := by
  cases h with
  | mk tag attrs data ks htag hattrs hdata hal hkl hks =>
    rw [encodable, nodeSize _ hdata]
    simp only [Bool.and_eq_true, decide_eq_true_eq]
    exact ⟨⟨by split <;> omega, hkl⟩, encodableList_of_WFNodes d hks⟩

theorem encodableList_of_WFNodes (d : Dict) {ns : List Node} (h : WFNodes d ns) :
    encodableList d ns = true := by
  cases h with
  | nil => rw [encodableList]
  | cons n ns hn hns =>
    rw [encodableList, encodable_of_WFNode d hn, encodableList_of_WFNodes d hns]; rfl
end

end Yow.Coder
