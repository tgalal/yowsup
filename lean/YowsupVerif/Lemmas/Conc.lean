/-
  Concurrent senders (Model/Conc.lean): with the outer lock in place every schedule produces whole frames in counter
  order, each stanza exactly once, and no schedule deadlocks.
-/
import YowsupVerif.Lemmas.ConcBase
namespace Yow.Conc

def allStanzas (work : List (List Nat)) : List Nat := work.flatMap id

theorem Inv'.wire {inner work s} (h : Inv' inner work s) :
    (wellFramed s.wire 0 = true) ∨
    (∃ w f, s.wire = w ++ [.hdr f] ∧ wellFramed w 0 = true ∧ f.ctr * 2 = w.length) := by
  obtain ⟨dn, base, cur, h⟩ := h
  match cur, h.glob with
  | none, g => exact .inl (g.wire ▸ h.wfb)
  | some ⟨i, ph, f⟩, g =>
    have hW := g.wire
    cases ph
    case wrP => exact .inr ⟨base, f, hW, h.wfb, g.fctr⟩
    case relN | relO => exact .inl (hW ▸ wellFramed_append_frame base 0 f h.wfb (by have := g.fctr; omega))
    all_goals exact .inl (hW ▸ h.wfb)

theorem Inv'.exactly_once {inner work s} (h : Inv' inner work s) (hf : finished s = true) :
    wellFramed s.wire 0 = true ∧ (stanzasOnWire s.wire).Perm (allStanzas work) ∧
    ∀ i, i < work.length → (work.getD i []).Sublist (stanzasOnWire s.wire) := by
  obtain ⟨dn, base, cur, h⟩ := h
  have hfin : ∀ (j : Nat) (t : Thread), s.threads[j]? = some t → t.ops = [] := all_isEmpty_iff.mp hf
  match cur, h.glob with
  | some ⟨i, ph, f⟩, g =>
    -- a thread in the middle of a stanza has not finished
    obtain ⟨td, -, -, ht, -⟩ := h.thr.cur g.lt
    obtain ⟨op, rest, ho, _⟩ := tailOps_head inner f.stanza ph
    have := hfin i _ ht
    rw [busyThread, ho] at this
    cases this
  | none, g =>
    -- every thread is idle with nothing left: all its work is done
    have hdn : dn = work := by
      apply List.ext_getElem?
      intro j
      by_cases hj : j < work.length
      · obtain ⟨t, w, d, ht, hw, hd, td, hw', rfl⟩ := h.thr j hj
        cases td with
        | nil => rw [hw, hd, hw', List.append_nil]
        | cons c td' =>
          have := hfin j _ ht
          rw [idleThread, List.flatMap_cons, program_eq] at this
          cases this
      · rw [List.getElem?_eq_none (by rw [h.lenD]; omega), List.getElem?_eq_none (by omega)]
    subst hdn
    rw [g.wire]
    refine ⟨h.wfb, by simpa [allStanzas, List.flatMap_id] using h.perm, fun i hi => ?_⟩
    rw [List.getD_eq_getElem?_getD, List.getElem?_eq_getElem hi]
    exact h.sub i _ (List.getElem?_eq_getElem hi)

theorem Inv'.progress {inner work s} (h : Inv' inner work s) (hf : finished s = false) : ∃ i, step s i ≠ s := by
  obtain ⟨dn, base, cur, h⟩ := h
  match cur, h.glob with
  | none, g =>
    obtain ⟨j, t, htj, hne⟩ := exists_of_all_isEmpty_eq_false hf
    have hj : j < work.length := h.lenT ▸ (List.getElem?_eq_some_iff.mp htj).1
    obtain ⟨td, -, -, ht, -⟩ := h.thr.other hj (fun _ e => nomatch e)
    cases htj.symm.trans ht
    cases td with
    | nil => exact absurd rfl hne
    | cons c td' =>
      exact ⟨j, step_ne htj (List.flatMap_cons.trans (congrArg (· ++ _) (program_eq inner c))) (fun _ => g.lockO) nofun nofun⟩
  | some ⟨i, ph, f⟩, g =>
    obtain ⟨td, -, -, ht, -⟩ := h.thr.cur g.lt
    obtain ⟨op, rest, hops, h1, h2, h3⟩ := tailOps_head inner f.stanza ph
    refine ⟨i, step_ne ht (congrArg (· ++ _) hops) (fun e => absurd e h1) ?_ ?_⟩
    · intro e; cases h2 e; exact g.lockN
    · intro e; cases h3 e; exact g.queue ▸ List.cons_ne_nil _ _

theorem progress (inner : Bool) (work : List (List Nat)) (sched : List Nat)
    (hf : finished (run (init { outer := true, inner := inner } work) sched) = false) :
    ∃ i, step (run (init { outer := true, inner := inner } work) sched) i ≠ run (init { outer := true, inner := inner } work) sched :=
  (inv_reach inner work sched).progress hf

end Yow.Conc
