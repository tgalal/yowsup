/-
  The inductive invariant of the concurrency model (Model/Conc.lean) with the outer lock in place, and its preservation.
  It is a phase table.  At most one thread (`Cur`) is inside a stanza, since it holds the outer lock; its `Phase` — named
  by its next operation — fixes its remaining operations, the inner lock, the queue, the counter and what it has added
  to the wire (`GlobBusy`).  All other threads are between two stanzas; what was transmitted before is whole frames in
  counter order (`Sent`).
-/
import YowsupVerif.Model.Conc
import YowsupVerif.Lemmas.Threads
namespace Yow.Conc

theorem wellFramed_append_frame (w : List W) (n : Nat) (f : Frame)
    (h : wellFramed w n = true) (hc : f.ctr * 2 = w.length + 2 * n) :
    wellFramed (w ++ [.hdr f] ++ [.pay f]) n = true := by
  fun_induction wellFramed w n with
  | case1 n => simp [wellFramed]; simp at hc; omega
  | case2 g g' rest n ih =>
    simp [wellFramed] at h ⊢
    refine ⟨h.1, by simpa using ih h.2 (by simp at hc; omega)⟩
  | case3 w n h1 h2 => simp at h

theorem stanzasOnWire_append (a b : List W) :
    stanzasOnWire (a ++ b) = stanzasOnWire a ++ stanzasOnWire b := by
  induction a with
  | nil => simp [stanzasOnWire]
  | cons x a ih => cases x <;> simp [stanzasOnWire, ih]

theorem stanzasOnWire_frame (w : List W) (f : Frame) :
    stanzasOnWire (w ++ [.hdr f] ++ [.pay f]) = stanzasOnWire w ++ [f.stanza] := by
  rw [stanzasOnWire_append, stanzasOnWire_append, List.append_assoc]; rfl

theorem flatten_set_perm (dn : List (List Nat)) (i : Nat) (d : List Nat) (c : Nat)
    (h : dn[i]? = some d) : (dn.set i (d ++ [c])).flatten.Perm (dn.flatten ++ [c]) := by
  induction dn generalizing i with
  | nil => simp at h
  | cons x dn ih =>
    cases i with
    | zero =>
      simp at h; subst h
      simp
      exact (List.perm_append_comm (l₁ := [c]) (l₂ := dn.flatten)).append_left x
    | succ i =>
      simp at h
      simp
      exact (ih i h).append_left x

inductive Phase | enc | put | acqN | get | wrH | wrP | relN | relO
deriving DecidableEq

def tailOps (inner : Bool) (c : Nat) : Phase → List Op
  | .enc => [.enc c, .put] ++ (if inner then [.acqN] else []) ++ [.get, .wrH, .wrP] ++ (if inner then [.relN] else []) ++ [.relO]
  | .put => [.put] ++ (if inner then [.acqN] else []) ++ [.get, .wrH, .wrP] ++ (if inner then [.relN] else []) ++ [.relO]
  | .acqN => [.acqN, .get, .wrH, .wrP] ++ (if inner then [.relN] else []) ++ [.relO]
  | .get => [.get, .wrH, .wrP] ++ (if inner then [.relN] else []) ++ [.relO]
  | .wrH => [.wrH, .wrP] ++ (if inner then [.relN] else []) ++ [.relO]
  | .wrP => [.wrP] ++ (if inner then [.relN] else []) ++ [.relO]
  | .relN => [.relN, .relO]
  | .relO => [.relO]

def nextPh (inner : Bool) : Phase → Phase
  | .enc => .put
  | .put => if inner then .acqN else .get
  | .acqN => .get
  | .get => .wrH
  | .wrH => .wrP
  | .wrP => if inner then .relN else .relO
  | .relN => .relO
  | .relO => .relO

def phValid (inner : Bool) : Phase → Prop
  | .acqN | .relN => inner = true
  | _ => True

def phMade : Phase → Frame → Option Frame
  | .put, f => some f
  | _, _ => none

def phGot : Phase → Frame → Option Frame
  | .wrH, f | .wrP, f => some f
  | _, _ => none

def phQueue : Phase → Frame → List Frame
  | .acqN, f | .get, f => [f]
  | _, _ => []

def phLockN (inner : Bool) (i : Nat) : Phase → Option Nat
  | .get | .wrH | .wrP | .relN => if inner then some i else none
  | _ => none

/-- the wire, given what was on it when the current frame was begun -/
def phWire : Phase → Frame → List W → List W
  | .wrP, f, base => base ++ [.hdr f]
  | .relN, f, base | .relO, f, base => base ++ [.hdr f] ++ [.pay f]
  | _, _, base => base

def phCtr : Phase → Frame → Nat
  | .enc, f => f.ctr
  | _, f => f.ctr + 1

structure Cur where
  i : Nat
  ph : Phase
  f : Frame

abbrev cfgO (inner : Bool) : Cfg := { outer := true, inner := inner }

def idleThread (inner : Bool) (td : List Nat) : Thread :=
  { ops := td.flatMap (program (cfgO inner)), made := none, got := none }

def busyThread (inner : Bool) (ph : Phase) (f : Frame) (td : List Nat) : Thread :=
  { ops := tailOps inner f.stanza ph ++ td.flatMap (program (cfgO inner)), made := phMade ph f, got := phGot ph f }

/-- thread `j` (state `t`, work `w`, already-transmitted stanzas `d`) is consistent with `cur` -/
def ThreadOK (inner : Bool) (cur : Option Cur) (j : Nat) (t : Thread) (w d : List Nat) : Prop :=
  ∃ td, match cur with
    | some c => if j = c.i then w = d ++ c.f.stanza :: td ∧ t = busyThread inner c.ph c.f td
                else w = d ++ td ∧ t = idleThread inner td
    | none => w = d ++ td ∧ t = idleThread inner td

def Thr (inner : Bool) (work dn : List (List Nat)) (ths : List Thread) (cur : Option Cur) : Prop :=
  ∀ j, j < work.length → ∃ t w d, ths[j]? = some t ∧ work[j]? = some w ∧ dn[j]? = some d ∧ ThreadOK inner cur j t w d

structure GlobIdle (s : St) (base : List W) : Prop where
  lockO : s.lockO = none
  lockN : s.lockN = none
  queue : s.queue = []
  wire : s.wire = base
  ctr : s.ctr * 2 = base.length

structure GlobBusy (inner : Bool) (n : Nat) (s : St) (base : List W) (i : Nat) (ph : Phase) (f : Frame) : Prop where
  lt : i < n
  valid : phValid inner ph
  lockO : s.lockO = some i
  lockN : s.lockN = phLockN inner i ph
  queue : s.queue = phQueue ph f
  wire : s.wire = phWire ph f base
  ctr : s.ctr = phCtr ph f
  fctr : f.ctr * 2 = base.length

def Glob (inner : Bool) (n : Nat) (s : St) (base : List W) : Option Cur → Prop
  | none => GlobIdle s base
  | some ⟨i, ph, f⟩ => GlobBusy inner n s base i ph f

/-- `dn[j]`: the stanzas of thread `j` among the frames transmitted completely -/
structure Sent (work dn : List (List Nat)) (base : List W) : Prop where
  lenD : dn.length = work.length
  wfb : wellFramed base 0 = true
  perm : (stanzasOnWire base).Perm dn.flatten
  sub : ∀ (j : Nat) (d : List Nat), dn[j]? = some d → d.Sublist (stanzasOnWire base)

structure Inv (inner : Bool) (work : List (List Nat)) (s : St) (dn : List (List Nat)) (base : List W)
    (cur : Option Cur) : Prop extends Sent work dn base where
  lenT : s.threads.length = work.length
  thr : Thr inner work dn s.threads cur
  glob : Glob inner work.length s base cur

def Inv' (inner : Bool) (work : List (List Nat)) (s : St) : Prop := ∃ dn base cur, Inv inner work s dn base cur

theorem program_eq (inner : Bool) (c : Nat) : program (cfgO inner) c = .acqO :: tailOps inner c .enc := by
  cases inner <;> rfl

theorem tailOps_next (inner : Bool) (c : Nat) (ph : Phase) (hv : phValid inner ph) (h : ph ≠ .relO) :
    ∃ op, tailOps inner c ph = op :: tailOps inner c (nextPh inner ph) := by
  -- a table of 2 × 8 rows, each read off `tailOps`; `h` and `hv` exclude the rows that have no successor
  cases inner <;> cases ph <;> first | exact ⟨_, rfl⟩ | exact absurd rfl h | exact nomatch hv

theorem tailOps_head (inner : Bool) (c : Nat) (ph : Phase) :
    ∃ op rest, tailOps inner c ph = op :: rest ∧ op ≠ .acqO ∧ (op = .acqN → ph = .acqN) ∧ (op = .get → ph = .get) := by
  cases ph
  all_goals refine ⟨_, _, rfl, nofun, ?_, ?_⟩
  all_goals intro e; first | rfl | cases e

theorem phValid_nextPh (inner : Bool) (ph : Phase) : phValid inner (nextPh inner ph) := by
  cases inner <;> cases ph <;> trivial

theorem inv_init (inner : Bool) (work : List (List Nat)) : Inv inner work (init (cfgO inner) work) (work.map fun _ => []) [] none := by
  refine ⟨⟨by simp, rfl, by simp [stanzasOnWire], ?_⟩, by simp [init], ?_, ⟨rfl, rfl, rfl, rfl, rfl⟩⟩
  · intro j d h
    simp at h
    obtain ⟨_, _, rfl⟩ := h
    simp
  · intro j hj
    refine ⟨idleThread inner work[j], work[j], [], ?_, by simp [hj], by simp [hj], work[j], ?_⟩
    · simp [init, hj, threadOf, idleThread]
    · simp

theorem Sent.frame {work dn : List (List Nat)} {base : List W} (h : Sent work dn base) {j : Nat} {d : List Nat}
    (hd : dn[j]? = some d) {f : Frame} (hF : f.ctr * 2 = base.length) :
    Sent work (dn.set j (d ++ [f.stanza])) (base ++ [.hdr f] ++ [.pay f]) where
  lenD := (List.length_set ..).trans h.lenD
  wfb := wellFramed_append_frame _ _ _ h.wfb (by omega)
  perm := by
    rw [stanzasOnWire_frame]
    exact (h.perm.append_right _).trans (flatten_set_perm dn j d f.stanza hd).symm
  sub k d' hk := by
    rw [stanzasOnWire_frame]
    by_cases hkj : j = k
    · subst hkj
      rw [List.getElem?_set_self (List.getElem?_eq_some_iff.mp hd).1] at hk
      cases hk
      exact (h.sub j d hd).append (List.Sublist.refl _)
    · rw [List.getElem?_set_ne hkj] at hk
      exact (h.sub k d' hk).trans (List.sublist_append_left ..)

theorem Thr.cur {inner work dn ths i ph f} (h : Thr inner work dn ths (some ⟨i, ph, f⟩)) (hi : i < work.length) :
    ∃ td wk d, ths[i]? = some (busyThread inner ph f td) ∧ work[i]? = some wk ∧ dn[i]? = some d ∧
      wk = d ++ f.stanza :: td := by
  obtain ⟨t, wk, d, ht, hw, hd, td, hok⟩ := h i hi
  obtain ⟨hw', rfl⟩ := (if_pos rfl).mp hok
  exact ⟨td, wk, d, ht, hw, hd, hw'⟩

theorem Thr.other {inner work dn ths cur j} (h : Thr inner work dn ths cur) (hj : j < work.length)
    (hc : ∀ c, cur = some c → j ≠ c.i) :
    ∃ td wk d, ths[j]? = some (idleThread inner td) ∧ work[j]? = some wk ∧ dn[j]? = some d ∧ wk = d ++ td := by
  obtain ⟨t, wk, d, ht, hw, hd, td, hok⟩ := h j hj
  cases cur with
  | none => exact ⟨td, wk, d, hok.2 ▸ ht, hw, hd, hok.1⟩
  | some c =>
    obtain ⟨hw', rfl⟩ := (if_neg (hc c rfl)).mp hok
    exact ⟨td, wk, d, ht, hw, hd, hw'⟩

/-- before and after, the current thread is `i` or nobody, so the other threads are idle throughout -/
theorem Thr.set {inner work dn dn' ths cur cur'} (h : Thr inner work dn ths cur) {i : Nat} (hl : ths.length = work.length)
    (hc : ∀ c, cur = some c → c.i = i) (hc' : ∀ c, cur' = some c → c.i = i) (hdn : ∀ j, j ≠ i → dn'[j]? = dn[j]?)
    {t' : Thread} (hnew : ∃ w d, work[i]? = some w ∧ dn'[i]? = some d ∧ ThreadOK inner cur' i t' w d) :
    Thr inner work dn' (ths.set i t') cur' := by
  intro j hj
  by_cases hji : j = i
  · subst hji
    obtain ⟨w, d, hw, hd, hok⟩ := hnew
    exact ⟨t', w, d, List.getElem?_set_self (hl ▸ hj), hw, hd, hok⟩
  · obtain ⟨td, w, d, ht, hw, hd, hw'⟩ := h.other hj fun c e => (hc c e).symm ▸ hji
    refine ⟨_, w, d, (List.getElem?_set_ne (Ne.symm hji)).trans ht, hw, (hdn j hji).trans hd, td, ?_⟩
    cases cur' with
    | none => exact ⟨hw', rfl⟩
    | some c => exact (if_neg fun (e : j = c.i) => hji (e.trans (hc' c rfl))).mpr ⟨hw', rfl⟩

theorem step_idle_stuck {inner s j td} (ht : s.threads[j]? = some (idleThread inner td))
    (h : td = [] ∨ ∃ i, s.lockO = some i) : step s j = s := by
  cases td with
  | nil => simp only [step, ht]; rfl
  | cons c td =>
    obtain ⟨i, hO⟩ := h.resolve_left (List.cons_ne_nil c td)
    simp only [step, ht, hO]; rfl

theorem step_acquire {inner ths j c td lN ctr q w} (ht : ths[j]? = some (idleThread inner (c :: td))) :
    step ⟨ths, none, lN, ctr, q, w⟩ j = ⟨ths.set j (busyThread inner .enc ⟨ctr, c⟩ td), some j, lN, ctr, q, w⟩ := by
  simp only [step, ht]; cases inner <;> rfl

theorem step_busy {inner ths i ph f td lO base} (ht : ths[i]? = some (busyThread inner ph f td))
    (hv : phValid inner ph) (hne : ph ≠ .relO) :
    step ⟨ths, lO, phLockN inner i ph, phCtr ph f, phQueue ph f, phWire ph f base⟩ i =
      ⟨ths.set i (busyThread inner (nextPh inner ph) f td), lO, phLockN inner i (nextPh inner ph), phCtr (nextPh inner ph) f,
        phQueue (nextPh inner ph) f, phWire (nextPh inner ph) f base⟩ := by
  simp only [step, ht]
  cases inner <;> cases ph <;> first | rfl | exact absurd rfl hne | exact nomatch hv

theorem step_release {inner ths i f td lO lN ctr q w} (ht : ths[i]? = some (busyThread inner .relO f td)) :
    step ⟨ths, lO, lN, ctr, q, w⟩ i = ⟨ths.set i (idleThread inner td), none, lN, ctr, q, w⟩ := by
  simp only [step, ht]; rfl

theorem inv_step {inner work s} (h : Inv' inner work s) (j : Nat) : Inv' inner work (step s j) := by
  obtain ⟨dn, base, cur, h⟩ := h
  by_cases hj : j < work.length
  case neg =>
    have : s.threads[j]? = none := List.getElem?_eq_none (by rw [h.lenT]; omega)
    have : step s j = s := by simp only [step, this]
    rw [this]; exact ⟨dn, base, cur, h⟩
  have hg := h.glob
  obtain ⟨ths, lO, lN, ctr, q, w⟩ := s
  cases cur with
  | none =>
    -- nobody is inside a stanza: thread `j` has finished, or takes the outer lock and begins its next stanza
    obtain ⟨td, wk, d, ht, hw, hd, hw'⟩ := h.thr.other hj (fun _ e => nomatch e)
    cases td with
    | nil => rw [step_idle_stuck ht (.inl rfl)]; exact ⟨dn, base, none, h⟩
    | cons c td' =>
      obtain ⟨rfl, rfl, rfl, rfl, hC⟩ := hg
      rw [step_acquire ht]
      exact ⟨dn, w, some ⟨j, .enc, ⟨ctr, c⟩⟩, {
        toSent := h.toSent
        lenT := (List.length_set ..).trans h.lenT
        thr := h.thr.set h.lenT nofun (fun _ e => Option.some.inj e ▸ rfl) (fun _ _ => rfl)
          ⟨wk, d, hw, hd, td', (if_pos rfl).mpr ⟨hw', rfl⟩⟩
        glob := ⟨hj, trivial, rfl, rfl, rfl, rfl, rfl, hC⟩ }⟩
  | some c =>
    obtain ⟨i, ph, f⟩ := c
    obtain ⟨hi, hv, hO, rfl, rfl, rfl, rfl, hF⟩ := hg
    by_cases hji : j = i
    case neg =>
      -- thread `i` holds the outer lock: any other thread stays where it is
      obtain ⟨td, -, -, ht, -⟩ := h.thr.other hj fun _ e => Option.some.inj e ▸ hji
      rw [step_idle_stuck ht (.inr ⟨i, hO⟩)]; exact ⟨dn, base, _, h⟩
    subst hji
    obtain ⟨td, wk, d, ht, hw, hd, hw'⟩ := h.thr.cur hj
    have mine {ph'} : ∀ c, some (Cur.mk j ph' f) = some c → c.i = j := fun _ e => Option.some.inj e ▸ rfl
    by_cases hph : ph = .relO
    · -- the stanza is done: the thread is idle again, its frame counts as transmitted
      subst hph
      rw [step_release ht]
      refine ⟨dn.set j (d ++ [f.stanza]), base ++ [.hdr f] ++ [.pay f], none, {
        toSent := h.toSent.frame hd hF
        lenT := (List.length_set ..).trans h.lenT
        thr := h.thr.set (cur' := none) h.lenT mine (fun _ e => nomatch e) (fun _ hk => List.getElem?_set_ne (Ne.symm hk))
          ⟨wk, _, hw, List.getElem?_set_self (h.lenD ▸ hj), td, by rw [hw', List.append_assoc]; rfl, rfl⟩
        glob := ⟨rfl, rfl, rfl, rfl, ?_⟩ }⟩
      show (f.ctr + 1) * 2 = (base ++ [W.hdr f] ++ [W.pay f]).length
      simp only [List.length_append, List.length_singleton]; omega
    · rw [step_busy ht hv hph]
      exact ⟨dn, base, some ⟨j, nextPh inner ph, f⟩, {
        toSent := h.toSent
        lenT := (List.length_set ..).trans h.lenT
        thr := h.thr.set h.lenT mine mine (fun _ _ => rfl) ⟨wk, d, hw, hd, td, (if_pos rfl).mpr ⟨hw', rfl⟩⟩
        glob := ⟨hi, phValid_nextPh inner ph, hO, rfl, rfl, rfl, rfl, hF⟩ }⟩

theorem inv_run {inner work s} (h : Inv' inner work s) : ∀ sched, Inv' inner work (run s sched)
  | [] => h
  | i :: is => inv_run (inv_step h i) is

theorem inv_reach (inner : Bool) (work : List (List Nat)) (sched : List Nat) :
    Inv' inner work (run (init (cfgO inner) work) sched) :=
  inv_run ⟨_, _, _, inv_init inner work⟩ sched

/-- the thread's remaining operations get shorter -/
theorem step_ne {s : St} {i : Nat} {t : Thread} {op : Op} {rest : List Op}
    (ht : s.threads[i]? = some t) (hops : t.ops = op :: rest)
    (hO : op = .acqO → s.lockO = none) (hN : op = .acqN → s.lockN = none) (hQ : op = .get → s.queue ≠ []) :
    step s i ≠ s := by
  have key : ∃ t', t'.ops = rest ∧ (step s i).threads = s.threads.set i t' := by
    simp only [step, ht, hops]
    cases op with
    | acqO => rw [hO rfl]; exact ⟨_, rfl, rfl⟩
    | acqN => rw [hN rfl]; exact ⟨_, rfl, rfl⟩
    | get =>
      cases hq : s.queue with
      | nil => exact absurd hq (hQ rfl)
      | cons f q => exact ⟨_, rfl, rfl⟩
    | put => cases t.made <;> exact ⟨_, rfl, rfl⟩
    | wrH | wrP => cases t.got <;> exact ⟨_, rfl, rfl⟩
    | _ => exact ⟨_, rfl, rfl⟩
  obtain ⟨t', ht', hth⟩ := key
  exact fun heq => set_ne_of_tail ht hops ht' (hth.symm.trans (congrArg St.threads heq))

end Yow.Conc
