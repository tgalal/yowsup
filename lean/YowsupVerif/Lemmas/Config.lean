/-
  Lemmas for the account configuration (Model/Config.lean).  Format: a rendered entry `k=v` within the format
  restriction is parsed back as it is — nothing to strip, no comment character, the first `=` is the separator.
  Transform pipeline: field names are distinct, so the entry found under a field's name is that field's own.
  Save: `AtomicSave` admits two shapes of operation list; each is walked one operation at a time
  (`CrashSafe.cons`), and nothing before the final rename touches the config file (path 0).
-/
import YowsupVerif.Model.Config
namespace Yow.Config

theorem splitLines_eq_cons (s : Str) : ∃ l ls, splitLines s = l :: ls := by
  induction s with
  | nil => exact ⟨[], [], rfl⟩
  | cons c cs ih =>
    obtain ⟨l, ls, h⟩ := ih
    by_cases hc : c = 10
    · exact ⟨[], l :: ls, by simp only [splitLines, h, hc, if_true]⟩
    · exact ⟨c :: l, ls, by simp only [splitLines, h, hc, if_false]⟩

theorem splitLines_append (l rest : Str) (h : 10 ∉ l) :
    splitLines (l ++ 10 :: rest) = l :: splitLines rest := by
  induction l with
  | nil =>
    obtain ⟨a, as, ha⟩ := splitLines_eq_cons rest
    simp only [List.nil_append, splitLines, ha, if_true]
  | cons c cs ih =>
    simp only [List.cons_append, splitLines, ih (List.not_mem_of_not_mem_cons h),
      if_neg (Ne.symm (List.ne_of_not_mem_cons h))]

theorem splitLines_single (l : Str) (h : 10 ∉ l) : splitLines l = [l] := by
  induction l with
  | nil => rfl
  | cons c cs ih =>
    simp only [splitLines, ih (List.not_mem_of_not_mem_cons h), if_neg (Ne.symm (List.ne_of_not_mem_cons h))]

theorem splitLines_joinLines (ls : List Str) (hne : ls ≠ []) (h : ∀ l ∈ ls, 10 ∉ l) :
    splitLines (joinLines ls) = ls := by
  induction ls with
  | nil => exact absurd rfl hne
  | cons l ls ih =>
    cases ls with
    | nil => exact splitLines_single l (h l List.mem_cons_self)
    | cons l' ls' =>
      show splitLines (l ++ 10 :: joinLines (l' :: ls')) = _
      rw [splitLines_append _ _ (h l List.mem_cons_self),
        ih (List.cons_ne_nil _ _) fun x hx => h x (List.mem_cons_of_mem _ hx)]

theorem mem_joinLines {c : Nat} {ls : List Str} (hc : c ∈ joinLines ls) : c = 10 ∨ ∃ l ∈ ls, c ∈ l := by
  induction ls with
  | nil => cases hc
  | cons l rest ih =>
    cases rest with
    | nil => exact Or.inr ⟨l, List.mem_cons_self, hc⟩
    | cons l2 rest2 =>
      rcases List.mem_append.mp hc with hc | hc
      · exact Or.inr ⟨l, List.mem_cons_self, hc⟩
      · rcases List.mem_cons.mp hc with hc | hc
        · exact Or.inl hc
        · exact (ih hc).imp_right fun ⟨l', hl', h'⟩ => ⟨l', List.mem_cons_of_mem _ hl', h'⟩

theorem not_mem_entry {c : Nat} {k v : Str} (hk : c ∉ k) (hc : c ≠ 61) (hv : c ∉ v) : c ∉ k ++ 61 :: v :=
  fun h => (List.mem_append.mp h).elim hk fun h => (List.mem_cons.mp h).elim hc hv

theorem stripLeft_of_head (s : Str) (h : ∀ c, s.head? = some c → isSpace c = false) :
    stripLeft s = s := by
  cases s with
  | nil => rfl
  | cons c cs => rw [stripLeft, h c rfl]; rfl

theorem strip_eq (s : Str) (h1 : ∀ c, s.head? = some c → isSpace c = false)
    (h2 : ∀ c, s.getLast? = some c → isSpace c = false) : strip s = s := by
  rw [strip, stripLeft_of_head s h1, stripLeft_of_head s.reverse (by rwa [List.head?_reverse]),
    List.reverse_reverse]

theorem before_not_mem (c : Nat) (s : Str) (h : c ∉ s) : before c s = s := by
  induction s with
  | nil => rfl
  | cons a as ih =>
    rw [before, if_neg (Ne.symm (List.ne_of_not_mem_cons h)), ih (List.not_mem_of_not_mem_cons h)]

theorem after_append (sep : Nat) (k v : Str) (h : sep ∉ k) : after sep (k ++ sep :: v) = some v := by
  induction k with
  | nil => exact if_pos rfl
  | cons a as ih =>
    rw [List.cons_append, after, if_neg (Ne.symm (List.ne_of_not_mem_cons h)), ih (List.not_mem_of_not_mem_cons h)]

theorem before_append (sep : Nat) (k v : Str) (h : sep ∉ k) : before sep (k ++ sep :: v) = k := by
  induction k with
  | nil => exact if_pos rfl
  | cons a as ih =>
    rw [List.cons_append, before, if_neg (Ne.symm (List.ne_of_not_mem_cons h)), ih (List.not_mem_of_not_mem_cons h)]

theorem map_dash_id (k : Str) (h : 45 ∉ k) : k.map (fun ch => if ch = 45 then 95 else ch) = k := by
  induction k with
  | nil => rfl
  | cons a as ih =>
    rw [List.map_cons, if_neg (Ne.symm (List.ne_of_not_mem_cons h)), ih (List.not_mem_of_not_mem_cons h)]

theorem KeyOK.ne_nil {k : Str} (h : KeyOK k) : k ≠ [] := h.1
theorem KeyOK.no_eq {k : Str} (h : KeyOK k) : 61 ∉ k := fun hm => (h.2 61 hm).1 rfl
theorem KeyOK.no_hash {k : Str} (h : KeyOK k) : 35 ∉ k := fun hm => (h.2 35 hm).2.1 rfl
theorem KeyOK.no_semicolon {k : Str} (h : KeyOK k) : 59 ∉ k := fun hm => (h.2 59 hm).2.2.1 rfl
theorem KeyOK.no_dash {k : Str} (h : KeyOK k) : 45 ∉ k := fun hm => (h.2 45 hm).2.2.2.1 rfl
theorem KeyOK.no_lf {k : Str} (h : KeyOK k) : 10 ∉ k := fun hm => (h.2 10 hm).2.2.2.2.1 rfl
theorem KeyOK.no_space {k : Str} (h : KeyOK k) {c : Nat} (hc : c ∈ k) : isSpace c = false :=
  (h.2 c hc).2.2.2.2.2

theorem ValOK.no_hash {v : Str} (h : ValOK v) : 35 ∉ v := fun hm => (h.1 35 hm).1 rfl
theorem ValOK.no_semicolon {v : Str} (h : ValOK v) : 59 ∉ v := fun hm => (h.1 59 hm).2.1 rfl
theorem ValOK.no_lf {v : Str} (h : ValOK v) : 10 ∉ v := fun hm => (h.1 10 hm).2.2 rfl
theorem ValOK.head_no_space {v : Str} (h : ValOK v) : ∀ c, v.head? = some c → isSpace c = false := h.2.1
theorem ValOK.last_no_space {v : Str} (h : ValOK v) : ∀ c, v.getLast? = some c → isSpace c = false := h.2.2

theorem parseLine_kv (k v : Str) (hk : KeyOK k) (hv : ValOK v) :
    parseLine (k ++ 61 :: v) = some (some (k, v)) := by
  obtain ⟨c, k', rfl⟩ := List.exists_cons_of_ne_nil hk.ne_nil
  have hstrip : strip (c :: k' ++ 61 :: v) = c :: k' ++ 61 :: v := by
    refine strip_eq _ (fun d hd => ?_) (fun d hd => ?_)
    · cases hd; exact hk.no_space List.mem_cons_self
    · -- the last character is that of `v`, or the `=` if `v` is empty
      rw [List.getLast?_append, List.getLast?_cons] at hd
      cases hd
      cases hl : v.getLast? with
      | none => decide
      | some b => exact hv.last_no_space b hl
  have hcomment : ¬(c = 35 ∨ c = 59) := fun h =>
    h.elim (Ne.symm (List.ne_of_not_mem_cons hk.no_hash)) (Ne.symm (List.ne_of_not_mem_cons hk.no_semicolon))
  have h35 : 35 ∉ c :: k' ++ 61 :: v := not_mem_entry hk.no_hash (by decide) hv.no_hash
  have h59 : 59 ∉ c :: k' ++ 61 :: v := not_mem_entry hk.no_semicolon (by decide) hv.no_semicolon
  have hsk : strip (c :: k') = c :: k' :=
    strip_eq _ (fun d hd => hk.no_space (List.mem_of_mem_head? hd)) (fun d hd => hk.no_space (List.mem_of_getLast? hd))
  rw [parseLine, hstrip]
  show (if c = 35 ∨ c = 59 then none else _) = _
  rw [if_neg hcomment]
  simp only [before_not_mem 35 _ h35, before_not_mem 59 _ h59, after_append 61 _ _ hk.no_eq,
    before_append 61 _ _ hk.no_eq, hsk, strip_eq v hv.head_no_space hv.last_no_space, map_dash_id _ hk.no_dash]

theorem dictSet_new (acc : List (Str × Str)) (k v : Str) (h : ∀ p ∈ acc, p.1 ≠ k) :
    dictSet acc k v = acc ++ [(k, v)] := by
  unfold dictSet
  rw [if_neg]
  simp only [List.any_eq_true, decide_eq_true_eq, not_exists, not_and]
  exact h

theorem parseLines_render (kvs : List (Str × Str)) :
    ∀ acc : List (Str × Str), (∀ kv ∈ kvs, KeyOK kv.1 ∧ ValOK kv.2) →
      ((acc ++ kvs).map Prod.fst).Nodup →
      parseLines (kvs.map fun kv => kv.1 ++ 61 :: kv.2) acc = some (acc ++ kvs) := by
  induction kvs with
  | nil => intro acc _ _; rw [List.append_nil]; rfl
  | cons kv kvs ih =>
    intro acc hok hnd
    have h1 := hok kv List.mem_cons_self
    have hnew : ∀ p ∈ acc, p.1 ≠ kv.1 := fun p hp e =>
      (List.nodup_append.mp (List.map_append ▸ hnd)).2.2 p.1 (List.mem_map_of_mem hp) kv.1
        (List.mem_map_of_mem List.mem_cons_self) e
    rw [List.append_cons] at hnd ⊢
    simp only [List.map_cons, parseLines, parseLine_kv _ _ h1.1 h1.2, dictSet_new _ _ _ hnew]
    exact ih _ (fun x hx => hok x (List.mem_cons_of_mem _ hx)) hnd

theorem parse_render (kvs : List (Str × Str)) (h : DictOK kvs) : parse (render kvs) = some kvs := by
  cases kvs with
  | nil => rfl
  | cons kv kvs =>
    have hlines : ∀ l ∈ (kv :: kvs).map (fun kv => kv.1 ++ 61 :: kv.2), 10 ∉ l := by
      intro l hl
      obtain ⟨e, he, rfl⟩ := List.mem_map.mp hl
      exact not_mem_entry (h.1 e he).1.no_lf (by decide) (h.1 e he).2.no_lf
    rw [parse, render, splitLines_joinLines _ (mt List.map_eq_nil_iff.mp (List.cons_ne_nil _ _)) hlines]
    exact parseLines_render (kv :: kvs) [] h.1 h.2

theorem parse_brace_fails (rest : Str) : parse (123 :: 10 :: rest) = none := by
  have hline : parseLine [123] = some none := by decide
  rw [parse, show 123 :: 10 :: rest = [123] ++ 10 :: rest from rfl, splitLines_append _ _ (by decide),
    parseLines, hline]

def serEntry (b : B64) (fv : Field × Option Val) : Option (Str × SVal) :=
  match fv.2 with
  | none => none
  | some (.str s) => some (fv.1.name, SVal.str s)
  | some (.int n) => some (fv.1.name, SVal.int n)
  | some (.bin x) => some (fv.1.name, SVal.str (b.enc x))

theorem serialize_eq (b : B64) (version : Nat) (fields : List (Field × Option Val)) :
    serialize b version fields =
      ([95, 95, 118, 101, 114, 115, 105, 111, 110, 95, 95], SVal.int version) ::
        fields.filterMap (serEntry b) := rfl

theorem serEntry_name (b : B64) (fv : Field × Option Val) (kv : Str × SVal)
    (h : serEntry b fv = some kv) : kv.1 = fv.1.name := by
  obtain ⟨f, ov⟩ := fv
  cases ov with
  | none => simp [serEntry] at h
  | some v => cases v <;> (simp [serEntry] at h; subst h; rfl)

theorem find?_serEntry_none (b : B64) (n : Str) (fields : List (Field × Option Val))
    (h : ∀ fv ∈ fields, fv.1.name ≠ n) :
    (fields.filterMap (serEntry b)).find? (fun kv => kv.1 = n) = none := by
  simp only [List.find?_eq_none, List.mem_filterMap, decide_eq_true_eq]
  rintro kv ⟨fv, hfv, hs⟩ e
  exact h fv hfv (by rw [← serEntry_name b fv kv hs, e])

theorem find?_serEntry (b : B64) (fields : List (Field × Option Val))
    (hnd : (fields.map (fun fv => fv.1.name)).Nodup) (fv : Field × Option Val) (hfv : fv ∈ fields) :
    (fields.filterMap (serEntry b)).find? (fun kv => kv.1 = fv.1.name) = serEntry b fv := by
  induction fields with
  | nil => simp at hfv
  | cons fv0 rest ih =>
    simp only [List.map_cons, List.nodup_cons, List.mem_map, not_exists, not_and] at hnd
    obtain ⟨hn0, hnd'⟩ := hnd
    rw [List.filterMap_cons]
    rcases List.mem_cons.1 hfv with rfl | hmem
    · -- the field itself: its entry, if any, is found at once; if none, no later field has the name
      cases hs : serEntry b fv with
      | none => exact find?_serEntry_none b _ rest hn0
      | some kv => simp [serEntry_name b fv kv hs]
    · cases hs : serEntry b fv0 with
      | none => exact ih hnd' hmem
      | some kv =>
        simp only [List.find?_cons, serEntry_name b fv0 kv hs, Ne.symm (hn0 fv hmem), decide_false]
        exact ih hnd' hmem

theorem deserialize_serialize (b : B64) (hb : ∀ x, b.dec (b.enc x) = x) (version : Nat)
    (fields : List (Field × Option Val))
    (hnd : (fields.map (fun fv => fv.1.name)).Nodup)
    (hver : ∀ fv ∈ fields, fv.1.name ≠ [95, 95, 118, 101, 114, 115, 105, 111, 110, 95, 95])
    (hty : ∀ fv ∈ fields, ∀ v, fv.2 = some v → (fv.1.binary = true ↔ ∃ x, v = Val.bin x)) :
    deserialize b (fields.map Prod.fst) (serialize b version fields) = fields := by
  rw [serialize_eq]
  unfold deserialize
  rw [List.map_map]
  conv => rhs; rw [← List.map_id fields]
  apply List.map_congr_left
  intro fv hfv
  -- Under the field's name stands its own entry (the version entry in front has another name);
  -- what is left is that decoding undoes `serEntry`, by the kind of value.
  have hv : ([95, 95, 118, 101, 114, 115, 105, 111, 110, 95, 95] : Str) ≠ fv.1.name :=
    fun e => hver fv hfv e.symm
  simp only [Function.comp, List.find?_cons, hv, decide_false, find?_serEntry b fields hnd fv hfv, id]
  have ht := hty fv hfv
  obtain ⟨f, ov⟩ := fv
  cases ov with
  | none => simp [serEntry]
  | some v =>
    have ht' := ht v rfl
    cases v with
    | str s =>
      have : f.binary = false := by
        cases hbn : f.binary with
        | false => rfl
        | true => obtain ⟨x, hx⟩ := ht'.1 hbn; cases hx
      simp [serEntry, this]
    | int n => simp [serEntry]
    | bin x =>
      have : f.binary = true := ht'.2 ⟨x, rfl⟩
      simp [serEntry, this, hb]

theorem files_openTrunc {t : Nat} (ht : t ≠ 0) (new : Str) (fs : FS) :
    (applyOp new fs (.openTrunc t)).files 0 = fs.files 0 := if_neg (Ne.symm ht)

theorem files_flush {fs : FS} {p : Nat} (h : fs.target p ≠ 0) (data : Str) :
    (flush fs p data).files 0 = fs.files 0 := if_neg (Ne.symm h)

theorem atomicSave_cases {P : List FileOp → Prop} (mkdirs : ∀ rest, P rest → P (.mkdirs :: rest))
    (plain : ∀ t, t ≠ 0 → P [.openTrunc t, .write t, .close t, .replace t 0])
    (synced : ∀ t, t ≠ 0 → P [.openTrunc t, .write t, .sync t, .close t, .replace t 0])
    (ops : List FileOp) : AtomicSave ops = true → P ops := by
  intro h
  induction ops using AtomicSave.induct with
  | case1 rest ih => exact mkdirs rest (ih h)
  | case2 t t' t'' s d =>
    simp only [AtomicSave, Bool.and_eq_true, beq_iff_eq, bne_iff_ne] at h
    obtain ⟨⟨⟨⟨ht, rfl⟩, rfl⟩, rfl⟩, rfl⟩ := h
    exact plain _ ht
  | case3 t t' t3 t'' s d =>
    simp only [AtomicSave, Bool.and_eq_true, beq_iff_eq, bne_iff_ne] at h
    obtain ⟨⟨⟨⟨⟨ht, rfl⟩, rfl⟩, rfl⟩, rfl⟩, rfl⟩ := h
    exact synced _ ht
  | case4 t h1 h2 h3 =>
    exfalso
    unfold AtomicSave at h
    split at h
    · exact h1 _ rfl
    · exact h2 _ _ _ _ _ rfl
    · exact h3 _ _ _ _ _ _ rfl
    · exact absurd h (by decide)

theorem files_flush_tmp {t : Nat} (ht : t ≠ 0) (new : Str) (fs : FS) (data : Str) :
    (flush (applyOps new fs [.openTrunc t, .write t]) t data).files 0 = fs.files 0 :=
  (files_flush (by simp [applyOps, applyOp, ht]) data).trans (files_openTrunc ht new fs)

/-- Run from `fs`, a crash after any `k` operations, or in the middle of operation `k` (a flush that wrote
    only the prefix `part`), leaves in the config file either `old` or the complete `new`. -/
def CrashSafe (new part : Str) (old : Option Str) (fs : FS) (ops : List FileOp) : Prop :=
  ∀ k : Nat,
    ((applyOps new fs (ops.take k)).files 0 = old ∨ (applyOps new fs (ops.take k)).files 0 = some new) ∧
    (k < ops.length →
      (applyTorn new part (applyOps new fs (ops.take k)) (ops.getD k .mkdirs)).files 0 = old ∨
      (applyTorn new part (applyOps new fs (ops.take k)) (ops.getD k .mkdirs)).files 0 = some new)

theorem CrashSafe.nil {new part : Str} {old : Option Str} {fs : FS}
    (h : fs.files 0 = old ∨ fs.files 0 = some new) : CrashSafe new part old fs [] :=
  fun k => ⟨by rw [List.take_nil]; exact h, fun hk => absurd hk (Nat.not_lt_zero k)⟩

theorem CrashSafe.cons {new part : Str} {old : Option Str} {fs : FS} {op : FileOp} {rest : List FileOp}
    (h : fs.files 0 = old ∨ fs.files 0 = some new)
    (htorn : (applyTorn new part fs op).files 0 = old ∨ (applyTorn new part fs op).files 0 = some new)
    (hrest : CrashSafe new part old (applyOp new fs op) rest) : CrashSafe new part old fs (op :: rest)
  | 0 => ⟨h, fun _ => htorn⟩
  | k + 1 => ⟨(hrest k).1, fun hk => (hrest k).2 (Nat.lt_of_succ_lt_succ hk)⟩

theorem close_replace_crash {new part : Str} {fs : FS} {t : Nat} (ht : t ≠ 0) (htt : fs.target t = t)
    (hnew : (fs.files t).getD [] ++ fs.buf t = new) :
    CrashSafe new part (fs.files 0) fs [.close t, .replace t 0] ∧
      (applyOps new fs [.close t, .replace t 0]).files 0 = some new := by
  have closed : ∀ data, (flush fs t data).files 0 = fs.files 0 := files_flush (by rw [htt]; exact ht)
  have done : (applyOps new fs [.close t, .replace t 0]).files 0 = some new := by
    simp [applyOps, applyOp, flush, fsSet, htt, hnew, Ne.symm ht]
  exact ⟨.cons (Or.inl rfl) (Or.inl (closed part)) <| .cons (Or.inl (closed _)) (Or.inr done) <|
    .nil (Or.inr done), done⟩

theorem atomicSave_crash (new part : Str) (fs : FS) :
    ∀ ops, AtomicSave ops = true →
      CrashSafe new part (fs.files 0) fs ops ∧ (applyOps new fs ops).files 0 = some new := by
  apply atomicSave_cases
  · exact fun rest ih => ⟨.cons (Or.inl rfl) (Or.inl rfl) ih.1, ih.2⟩
  · intro t ht
    have opened := files_openTrunc ht new fs
    obtain ⟨safe, done⟩ := close_replace_crash (new := new) (part := part)
      (fs := applyOps new fs [.openTrunc t, .write t]) ht (by simp [applyOps, applyOp])
      (by simp [applyOps, applyOp, fsSet])
    exact ⟨.cons (Or.inl rfl) (Or.inl opened) <| .cons (Or.inl opened) (Or.inl opened) (opened ▸ safe), done⟩
  · intro t ht
    have opened := files_openTrunc ht new fs
    have flushed := files_flush_tmp ht new fs
    obtain ⟨safe, done⟩ := close_replace_crash (new := new) (part := part)
      (fs := applyOps new fs [.openTrunc t, .write t, .sync t]) ht (by simp [applyOps, applyOp, flush])
      (by simp [applyOps, applyOp, flush, fsSet])
    exact ⟨.cons (Or.inl rfl) (Or.inl opened) <| .cons (Or.inl opened) (Or.inl opened) <|
      .cons (Or.inl opened) (Or.inl (flushed part)) (flushed _ ▸ safe), done⟩

theorem readText_id (s : Str) (h : ∀ c ∈ s, c ≠ 13) : readText s = s := by
  induction s with
  | nil => rfl
  | cons c cs ih =>
    have hc := h c List.mem_cons_self
    rw [readText.eq_4 c cs (fun _ e _ => hc e) hc, ih fun x hx => h x (List.mem_cons_of_mem _ hx)]

theorem render_noCR (kvs : List (Str × Str)) (h : NoCR kvs) : ∀ c ∈ render kvs, c ≠ 13 := by
  rintro c hc rfl
  rcases mem_joinLines hc with h10 | ⟨l, hl, hcl⟩
  · exact absurd h10 (by decide)
  · obtain ⟨kv, hkv, rfl⟩ := List.mem_map.mp hl
    exact not_mem_entry (fun hm => (h kv hkv).1 13 hm rfl) (by decide) (fun hm => (h kv hkv).2 13 hm rfl) hcl

end Yow.Config
