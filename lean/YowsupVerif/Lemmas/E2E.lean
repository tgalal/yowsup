/-
  Safety of the E2E system model (Model/E2E.lean): only ciphertext leaves a client, and an application is shown
  only what was submitted for it.  Both by induction over arbitrary allowed action sequences.
-/
import YowsupVerif.Lemmas.E2EBase

namespace Yow.E2E

/-- well-formed configuration: distinct accounts, distinct group ids, groups consist of accounts -/
def WFConfig (accts : List Acct) (groups : List (Nat × List Acct)) : Prop :=
  accts.Nodup ∧ (groups.map Prod.fst).Nodup ∧ ∀ g ∈ groups, ∀ m ∈ g.2, m ∈ accts

/-- where a shown message claims to come from, for a submission `(a, n)` shown to `r` -/
def OriginOf (a : Acct) (n : Node) (peer : Dest) (participant : Option Acct) : Prop :=
  match n.dest with
  | .user _ => peer = .user a ∧ participant = none
  | .group g => peer = .group g ∧ participant = some a

theorem OriginOf_eq (a : Acct) (n : Node) (peer : Dest) (part : Option Acct) :
    OriginOf a n peer part = Origin a n peer part := rfl

section Fun
variable {accts : List Acct} {groups : List (Nat × List Acct)} {sub : List (Acct × Node)}
variable {s : Sys} {a r : Acct} {c : Client} {n : Node} {st : Stanza} {id : Nat} {peer : Dest} {part : Option Acct}
  {encs : List (Option Acct × Ct)}

/-- the first half of `sendToGroupWithSessions`: the sender-key distribution ciphertexts -/
def sgFirst (s : Sys) (c : Client) (n : Node) (g : Nat) (need : List Acct) (retryCount : Nat) (participant : Option Acct) :
    Sys × Client × List (Option Acct × Ct) :=
  if need.isEmpty then (s, c, ([] : List (Option Acct × Ct)))
  else
    let (s', c', gen) := ownSenderKey s c g
    let plain : Plain := { skdm := some (g, gen), content := if retryCount > 0 then some n.payload else none }
    let r := encryptEach c' plain s'.nextCtr need
    ({ s' with nextCtr := s'.nextCtr + need.length }, c', r.map (fun jc => (if participant.isSome then none else some jc.1, jc.2)))

/-- the second half of `sendToGroupWithSessions` -/
def sgTail (a : Acct) (n : Node) (g : Nat) (retryCount : Nat) (participant : Option Acct)
    (t : Sys × Client × List (Option Acct × Ct)) : Sys :=
  let (s1, c1, encs1) := t
  if retryCount = 0 then
    let (s2, c2, gen) := ownSenderKey s1 c1 g
    let ct : Ct := { kind := .skmsg, sess := gen, ctr := s2.nextCtr, plain := { skdm := none, content := some n.payload }, corrupt := false }
    sendEnc { s2 with nextCtr := s2.nextCtr + 1 } a c2 n (encs1 ++ [(none, ct)]) participant
  else sendEnc s1 a c1 n encs1 participant

theorem sendToGroupWithSessions_eq (s : Sys) (a : Acct) (c : Client) (n : Node) (g : Nat) (need : List Acct) (rc : Nat) :
    sendToGroupWithSessions s a c n g need rc =
      sgTail a n g rc (match need with | [j] => if rc > 0 then some j else none | _ => none)
        (sgFirst s c n g need rc (match need with | [j] => if rc > 0 then some j else none | _ => none)) := by
  unfold sendToGroupWithSessions sgTail sgFirst; rfl

theorem firstKind_mem {encs : List (Option Acct × Ct)} {k : EncKind} {ct : Ct} (h : firstKind encs k = some ct) :
    ∃ e, e ∈ encs ∧ e.2 = ct := by
  unfold firstKind at h
  cases hf : encs.find? (fun e => e.2.kind == k) with
  | none => rw [hf] at h; cases h
  | some e =>
    rw [hf] at h
    cases h
    exact ⟨e, List.mem_of_find?_eq_some hf, rfl⟩

def heFirst (encs : List (Option Acct × Ct)) : Option Ct :=
  match firstKind encs .pkmsg with
  | some ct => some ct
  | none => firstKind encs .msg

def heMain (s : Sys) (r : Acct) (st : Stanza) (id : Nat) (peer : Dest) (part : Option Acct)
    (encs : List (Option Acct × Ct)) : Option Ct → Sys
  | none => handleEnc.stage2 s r st id peer part (whoOf peer part) encs
  | some ct =>
    match (decrypt (getClient s r) (whoOf peer part) ct).2 with
    | .ok pl =>
      handleEnc.stage2 (surface (storeSkdm (setClient s r (decrypt (getClient s r) (whoOf peer part) ct).1) r (whoOf peer part) pl)
        r id peer part pl) r st id peer part (whoOf peer part) encs
    | d => onDecryptFailure (setClient s r (decrypt (getClient s r) (whoOf peer part) ct).1) r st id peer part (whoOf peer part) d

theorem handleEnc_eq (s : Sys) (r : Acct) (id : Nat) (peer : Dest) (part : Option Acct) (im : Bool)
    (encs : List (Option Acct × Ct)) (pl : Option Payload) :
    handleEnc s r (.msg id peer part im encs pl) =
      heMain s r (.msg id peer part im encs pl) id peer part encs (heFirst encs) := by
  unfold handleEnc heFirst
  dsimp only [whoOf]
  cases firstKind encs .pkmsg with
  | none =>
    cases firstKind encs .msg with
    | none => rfl
    | some ct =>
      dsimp only [heMain, whoOf]
      generalize decrypt _ _ _ = d
      obtain ⟨c', d'⟩ := d
      cases d' <;> rfl
  | some ct =>
    dsimp only [heMain, whoOf]
    generalize decrypt _ _ _ = d
    obtain ⟨c', d'⟩ := d
    cases d' <;> rfl

theorem heFirst_mem {encs : List (Option Acct × Ct)} {ct : Ct} (h : heFirst encs = some ct) : ∃ e, e ∈ encs ∧ e.2 = ct := by
  unfold heFirst at h
  split at h
  · next ct' h' => cases h; exact firstKind_mem h'
  · exact firstKind_mem h

/-- one round of `processKeys` -/
def keyStep (r : Acct) (got : List Acct) (acc : Sys × List Acct) (j : Acct) : Sys × List Acct :=
  if got.contains j then
    (setClient { acc.1 with nextSess := acc.1.nextSess + 1 } r (createSession (getClient acc.1 r) j acc.1.nextSess), acc.2 ++ [j])
  else (setClient acc.1 r { getClient acc.1 r with skipEnc := (getClient acc.1 r).skipEnc ++ [.user j] }, acc.2)

theorem processKeys_eq (s : Sys) (r : Acct) (asked got : List Acct) :
    processKeys s r asked got = asked.foldl (keyStep r got) (s, []) := rfl

/-- what `onIqResult` does with the continuation it found, in the state `s0` where the registry entry is gone -/
def resume (s0 : Sys) (r : Acct) (got ms : List Acct) : Cont → Sys
  | .keysForSend n =>
    (match n.dest with
     | .user b =>
       let p := processKeys s0 r [b] got
       if p.2.length = 1 then sendToContact p.1 r (getClient p.1 r) n b else p.1
     | .group _ => s0)
  | .keysForRetry n who count =>
    let p := processKeys s0 r [who] got
    if p.2.length = 1 then processPlaintext p.1 r (getClient p.1 r) n (some (who, count)) else p.1
  | .keysForPending peer part =>
    let p := processKeys s0 r [whoOf peer part] got
    if p.2.isEmpty then p.1 else processPending p.1 r peer part
  | .groupInfo n =>
    (match n.dest with
     | .group g => ensureSessionsAndSend s0 r (getClient s0 r) n g (ms.filter (· != r))
     | .user _ => s0)
  | .keysForGroup n all asked =>
    (match n.dest with
     | .group g =>
       let p := processKeys s0 r asked got
       sendToGroupWithSessions p.1 r (getClient p.1 r) n g (all.filter (fun j => p.2.contains j || !asked.contains j)) 0
     | .user _ => s0)

theorem onIqResult_eq (s : Sys) (r : Acct) (iq : Nat) (got ms : List Acct) :
    onIqResult s r iq got ms =
      match lookup (getClient s r).iqReg iq with
      | none => s
      | some k => resume (setClient s r { getClient s r with iqReg := erase (getClient s r).iqReg iq }) r got ms k := by
  unfold onIqResult
  dsimp only
  cases lookup (getClient s r).iqReg iq with
  | none => rfl
  | some k => cases k <;> rfl

theorem clientReceive_msg (s : Sys) (y : Acct) {id : Nat} {peer : Dest} {part : Option Acct} {im : Bool}
    {encs : List (Option Acct × Ct)} {pl : Option Payload} (hne : encs.isEmpty = false) :
    clientReceive s y (.msg id peer part im encs pl) = handleEnc s y (.msg id peer part im encs pl) := by
  simp only [clientReceive, hne, Bool.false_eq_true, if_false]

theorem onIqResult_none {s : Sys} {r : Acct} {iq : Nat} (got ms : List Acct) (h : lookup (getClient s r).iqReg iq = none) :
    onIqResult s r iq got ms = s := by
  unfold onIqResult
  simp only [h]

theorem allowed_process {s : Sys} {a : Acct} (hall : Allowed s (.process a) = true) : ∃ st rest, queueOf s.inbound a = st :: rest := by
  simp only [Allowed] at hall
  cases hq : queueOf s.inbound a with
  | nil => rw [hq] at hall; cases hall
  | cons st rest => exact ⟨st, rest, rfl⟩

theorem step_process {s : Sys} {a : Acct} {st : Stanza} {rest : List Stanza} (hq : queueOf s.inbound a = st :: rest) :
    step s (.process a) = serverProcess { s with inbound := insert s.inbound a rest } a st := by
  simp only [step, hq]

theorem step_deliver_pop {s : Sys} {y : Acct} {st : Stanza} {rest : List Stanza} (hq : queueOf s.outbound y = st :: rest) :
    step s (.deliver y .none) = clientReceive { s with outbound := insert s.outbound y rest } y st := by
  simp only [step, hq]

theorem mem_enqueueSent {n m : Node} (h : m ∈ (enqueueSent c n).sentQueue) : m ∈ c.sentQueue ∨ m = n := by
  have h : m ∈ (if c.sentQueue.length ≥ 100 then c.sentQueue.drop 1 else c.sentQueue) ++ [n] := h
  refine (mem_snoc.mp h).imp_left fun h1 => ?_
  split at h1
  · exact List.mem_of_mem_drop h1
  · exact h1

theorem encryptFor_plain {peer : Acct} {plain : Plain} {nonce : Nat} {ct : Ct}
    (h : encryptFor c peer plain nonce = some ct) : ct.plain = plain := by
  unfold encryptFor at h
  split at h
  · cases h
  · cases h; rfl

theorem encryptEach_plain (c : Client) (plain : Plain) (l : List Acct) :
    ∀ nonce jc, jc ∈ encryptEach c plain nonce l → jc.2.plain = plain := by
  induction l with
  | nil => intro nonce jc h; simp [encryptEach] at h
  | cons j js ih =>
    intro nonce jc h
    unfold encryptEach at h
    split at h
    · exact ih _ _ h
    · next ct hct =>
      rcases List.mem_cons.mp h with h1 | h1
      · subst h1; exact encryptFor_plain hct
      · exact ih _ _ h1

theorem ownSenderKey_abs_core (s : Sys) (c : Client) (g : Nat) :
    abs (ownSenderKey s c g).1 = abs s ∧ core (ownSenderKey s c g).2.1 = core c := by
  unfold ownSenderKey; split <;> exact ⟨rfl, rfl⟩

theorem sgFirst_abs_core_encs (s : Sys) (c : Client) (n : Node) (g : Nat) (need : List Acct) (rc : Nat) (part : Option Acct) :
    abs (sgFirst s c n g need rc part).1 = abs s ∧ core (sgFirst s c n g need rc part).2.1 = core c ∧
      GoodEncs n (sgFirst s c n g need rc part).2.2 := by
  unfold sgFirst
  split
  · exact ⟨rfl, rfl, fun e he => by cases he⟩
  · refine ⟨(ownSenderKey_abs_core s c g).1, (ownSenderKey_abs_core s c g).2, ?_⟩
    intro e he p hp
    obtain ⟨jc, hjc, rfl⟩ := List.mem_map.mp he
    -- the plaintext under every key-distribution ciphertext carries the payload on a retry and nothing otherwise
    rw [show jc.2.plain = _ from encryptEach_plain _ _ _ _ _ hjc] at hp
    dsimp only at hp
    split at hp
    · cases hp; rfl
    · cases hp

/-- the histories a client keeps (ciphertexts opened, messages shown) are only appended to -/
def Extends (c c' : Client) : Prop := c.seen <+: c'.seen ∧ c.seenSK <+: c'.seenSK ∧ c.shown <+: c'.shown

theorem Extends.of_eq {c c' : Client} (h1 : c'.seen = c.seen) (h2 : c'.seenSK = c.seenSK) (h3 : c'.shown = c.shown) :
    Extends c c' :=
  ⟨h1 ▸ List.prefix_refl _, h2 ▸ List.prefix_refl _, h3 ▸ List.prefix_refl _⟩

theorem Extends.rfl' (c : Client) : Extends c c := .of_eq rfl rfl rfl

theorem Extends.trans {c c1 c2 : Client} (h1 : Extends c c1) (h2 : Extends c1 c2) : Extends c c2 :=
  ⟨h1.1.trans h2.1, h1.2.1.trans h2.2.1, h1.2.2.trans h2.2.2⟩

def DecOK (c : Client) (ct : Ct) (x : Client × Dec) : Prop :=
  core x.1 = core c ∧ Extends c x.1 ∧ ∀ pl, x.2 = .ok pl → pl = ct.plain

theorem DecOK.err {ct : Ct} {d : Dec} (h : ∀ pl, d ≠ .ok pl) : DecOK c ct (c, d) :=
  ⟨rfl, .rfl' c, fun pl e => absurd e (h pl)⟩

theorem decrypt_spec (c : Client) (peer : Acct) (ct : Ct) : DecOK c ct (decrypt c peer ct) := by
  have opened : ∀ sess, DecOK c ct ({ c with sessions := sess, seen := c.seen ++ [(ct.sess, ct.ctr)] }, .ok ct.plain) :=
    fun _ => ⟨rfl, ⟨List.prefix_append _ _, List.prefix_refl _, List.prefix_refl _⟩, fun _ h => (Dec.ok.inj h).symm⟩
  unfold decrypt
  cases ct.kind with
  | skmsg => exact .err fun _ => Dec.noConfusion
  | pkmsg => exact ite_ind (.err fun _ => Dec.noConfusion) (ite_ind (.err fun _ => Dec.noConfusion) (opened _))
  | msg =>
    dsimp only
    cases lookup c.sessions peer with
    | none => exact .err fun _ => Dec.noConfusion
    | some se =>
      exact ite_ind (.err fun _ => Dec.noConfusion) (ite_ind (.err fun _ => Dec.noConfusion)
        (ite_ind (.err fun _ => Dec.noConfusion) (opened _)))

theorem groupDecrypt_spec (c : Client) (g : Nat) (sender : Acct) (ct : Ct) : DecOK c ct (groupDecrypt c g sender ct) := by
  unfold groupDecrypt
  cases lookup c.peerSK (g, sender) with
  | none => exact .err fun _ => Dec.noConfusion
  | some gen =>
    exact ite_ind (.err fun _ => Dec.noConfusion) (ite_ind (.err fun _ => Dec.noConfusion)
      ⟨rfl, ⟨List.prefix_refl _, List.prefix_append _ _, List.prefix_refl _⟩, fun _ h => (Dec.ok.inj h).symm⟩)

theorem GoodEncs.of_plain {n : Node} {encs encs' : List (Option Acct × Ct)} (he : GoodEncs n encs)
    (h : ∀ e', e' ∈ encs' → ∃ e, e ∈ encs ∧ e'.2.plain = e.2.plain) : GoodEncs n encs' := by
  intro e' hm p hp
  obtain ⟨e, hmem, hpl⟩ := h e' hm
  exact he e hmem p (hpl ▸ hp)

theorem GoodEncs.filter {n : Node} {encs : List (Option Acct × Ct)} (he : GoodEncs n encs) (p : Option Acct × Ct → Bool) :
    GoodEncs n (encs.filter p) := he.of_plain fun e hm => ⟨e, (List.mem_filter.mp hm).1, rfl⟩

theorem corruptLast_plain (encs : List (Option Acct × Ct)) :
    ∀ e, e ∈ corruptLast encs → ∃ e', e' ∈ encs ∧ e.2.plain = e'.2.plain := by
  induction encs using corruptLast.induct with
  | case1 => intro e he; cases he
  | case2 e0 => intro e he; cases List.mem_singleton.mp he; exact ⟨e0, List.mem_singleton.mpr rfl, rfl⟩
  | case3 e0 es hne ih =>
    intro e he
    rw [corruptLast.eq_3 _ _ hne] at he
    rcases List.mem_cons.mp he with h1 | h1
    · exact ⟨e, h1 ▸ List.mem_cons_self, rfl⟩
    · obtain ⟨e', he', hp⟩ := ih e h1
      exact ⟨e', List.mem_cons_of_mem _ he', hp⟩

theorem GoodEncs.corruptLast {n : Node} {encs : List (Option Acct × Ct)} (he : GoodEncs n encs) :
    GoodEncs n (corruptLast encs) := he.of_plain (corruptLast_plain encs)

theorem corruptLast_append_single (l : List (Option Acct × Ct)) (e : Option Acct × Ct) :
    corruptLast (l ++ [e]) = l ++ [(e.1, { e.2 with corrupt := true })] := by
  induction l with
  | nil => rfl
  | cons a l ih =>
    cases hl : l ++ [e] with
    | nil => simp at hl
    | cons b m =>
      rw [List.cons_append, hl]
      show a :: corruptLast (b :: m) = _
      rw [← hl, ih]
      rfl

theorem corruptLast_ctr (encs : List (Option Acct × Ct)) :
    (corruptLast encs).map (fun e => e.2.ctr) = encs.map (fun e => e.2.ctr) := by
  induction encs with
  | nil => rfl
  | cons a l ih =>
    cases l with
    | nil => rfl
    | cons b m =>
      show (a :: corruptLast (b :: m)).map _ = _
      rw [List.map_cons, ih]; rfl

theorem getClient_init (accts : List Acct) (groups : List (Nat × List Acct)) (r : Acct) :
    getClient (initSys accts groups) r = {} := by
  unfold getClient
  cases h : lookup (initSys accts groups).clients r with
  | none => rfl
  | some c =>
    obtain ⟨a, _, e⟩ := List.mem_map.mp (lookup_mem h)
    cases e; rfl

theorem IqCompat.of_eq {c : Client} {k : Core} (hc : core c = k) : IqCompat k (core c) := by
  subst hc; exact IqCompat.rfl' rfl rfl

/-- `IqCompat.rfl'` for records: stated over `core` so that the two `rfl`s are checked field against field -/
theorem IqCompat.of_client {c c' : Client} (h1 : c'.nextIq = c.nextIq) (h2 : c'.iqReg = c.iqReg) :
    IqCompat (core c) (core c') :=
  IqCompat.rfl' h1 h2

/-- what is known about a message stanza `(id, peer, part)` on its way to / parked at `r` -/
def MsgInfo (groups : List (Nat × List Acct)) (sub : List (Acct × Node)) (r : Acct) (id : Nat) (peer : Dest)
    (part : Option Acct) (a : Acct) (n : Node) : Prop :=
  (a, n) ∈ sub ∧ n.id = id ∧ r ∈ intendedG groups a n ∧ Origin a n peer part

theorem MsgInfo.up (hm : MsgInfo groups sub r id peer part a n) (t : RType) : UpOK groups sub r (.receipt id peer part t) :=
  ⟨a, n, hm⟩

namespace SInv

protected theorem good {s' : Sys} (h : SInv accts groups s.submitted a s') : Good accts groups (abs s) (abs s') := ⟨h.1, h.2.1⟩

protected theorem acct (h : SInv accts groups sub a s) : a ∈ accts := h.2.2

protected theorem client (h : SInv accts groups sub a s) (r : Acct) : ClientOK accts groups sub r (core (getClient s r)) :=
  by obtain ⟨h, rfl, _⟩ := h; exact h.client r

protected theorem sub_reg (h : SInv accts groups sub a s) {b : Acct} {n : Node} (hn : (b, n) ∈ sub) :
    b ∈ accts ∧ ∀ r, r ∈ intendedG groups b n → r ∈ accts :=
  by obtain ⟨h, rfl, _⟩ := h; exact h.sub_reg b n hn

protected theorem sub_ids (h : SInv accts groups sub a s) {b b' : Acct} {n n' : Node} (hn : (b, n) ∈ sub) (hn' : (b', n') ∈ sub)
    (e : n.id = n'.id) : b = b' ∧ n = n' :=
  by obtain ⟨h, rfl, _⟩ := h; exact h.sub_ids b n b' n' hn hn' e

protected theorem of_abs {s' : Sys} (h : SInv accts groups sub a s) (e : abs s' = abs s) : SInv accts groups sub a s' :=
  ⟨e ▸ h.1, (congrArg ASys.submitted e).trans h.2.1, h.2.2⟩

protected theorem setClient (h : SInv accts groups sub a s)
    (hk : ClientOK accts groups sub a (core c)) (hq : IqCompat ((abs s).cl a) (core c)) :
    SInv accts groups sub a (setClient s a c) := by
  obtain ⟨h, rfl, ha⟩ := h
  exact ⟨abs_setClient s a c ▸ h.setCl ha hk hq, rfl, ha⟩

protected theorem setSame (h : SInv accts groups sub a s) (hc : core c = (abs s).cl a) :
    SInv accts groups sub a (setClient s a c) :=
  h.setClient (hc ▸ h.client a) (IqCompat.of_eq hc)

protected theorem emit (h : SInv accts groups sub a s)
    (hu : UpOK groups sub a st) (hl : LinkOK ((abs s).cl a) st) : SInv accts groups sub a (emit s a st) := by
  obtain ⟨h, rfl, ha⟩ := h
  exact ⟨abs_emit s a st ▸ h.emit ha hu hl, rfl, ha⟩

protected theorem setEmit (h : SInv accts groups sub a s)
    (hk : ClientOK accts groups sub a (core c)) (hq : IqCompat ((abs s).cl a) (core c))
    (hu : UpOK groups sub a st) (hl : LinkOK (core c) st) :
    SInv accts groups sub a (emit (setClient s a c) a st) :=
  (h.setClient hk hq).emit hu (by rw [cl_setClient_self]; exact hl)

protected theorem setEmitSame (h : SInv accts groups sub a s)
    (hc : core c = (abs s).cl a) (hu : UpOK groups sub a st) (hl : iqOf st = none) :
    SInv accts groups sub a (emit (setClient s a c) a st) :=
  h.setEmit (hc ▸ h.client a) (IqCompat.of_eq hc) hu (LinkOK.of_none hl)

protected theorem push {b : Acct} (h : SInv accts groups sub a s) (hb : b ∈ accts)
    (hd : DownOK accts groups sub b st) (hl : LinkOK ((abs s).cl b) st) : SInv accts groups sub a (push s b st) := by
  obtain ⟨h, rfl, ha⟩ := h
  exact ⟨abs_push s b st ▸ h.push hb hd hl, rfl, ha⟩

protected theorem sendEnc
    (h : SInv accts groups sub a s) (hc : core c = (abs s).cl a) (hn : (a, n) ∈ sub)
    (he : GoodEncs n encs) (hp : ∀ r, part = some r → r ∈ intendedG groups a n) :
    SInv accts groups sub a (sendEnc s a c n encs part) := by
  have h0 : ClientOK accts groups sub a (core c) := hc ▸ h.client a
  refine h.setEmit ?_ ?_ ⟨rfl, n, hn, rfl, rfl, he, hp⟩ (LinkOK.of_none rfl)
  · refine ite_ind (P := fun c' => ClientOK accts groups sub a (core c')) { h0 with sentQ := fun m hm => ?_ } h0
    rcases mem_enqueueSent hm with h1 | h1
    · exact h0.sentQ m h1
    · exact h1 ▸ hn
  · rw [← hc]
    exact ite_ind (P := fun c' => IqCompat (core c) (core c')) (IqCompat.of_client rfl rfl) (IqCompat.of_client rfl rfl)

protected theorem sendIq {mk : Nat → Stanza} {k : Cont}
    (h : SInv accts groups sub a s)
    (hk : ClientOK accts groups sub a (core c)) (hq : IqCompat ((abs s).cl a) (core c))
    (hc : ContOK accts groups sub a k) (hup : UpOK groups sub a (mk c.nextIq))
    (hiq : iqOf (mk c.nextIq) = some c.nextIq) (hj : ∀ j, j ∈ asked k → j ∈ jidsOf (mk c.nextIq)) :
    SInv accts groups sub a (sendIq s a c mk k) := by
  -- the new id is not in use, so the extended registry holds the old entries and the new one
  have hnone : lookup c.iqReg c.nextIq = none :=
    lookup_eq_none_iff.mpr fun p hp e => Nat.lt_irrefl _ (e ▸ hk.iq_lt p.1 p.2 hp)
  refine h.setEmit { hk with iq_lt := ?_, conts := ?_ } ⟨Nat.le_succ_of_le hq.1, ?_⟩ hup ?_
  · intro iq c' hm
    show iq < c.nextIq + 1
    rcases mem_snoc.mp hm with h1 | h1
    · exact Nat.lt_succ_of_lt (hk.iq_lt iq c' h1)
    · cases h1; exact Nat.lt_succ_self _
  · intro iq c' hm
    rcases mem_snoc.mp hm with h1 | h1
    · exact hk.conts iq c' h1
    · cases h1; exact hc
  · intro iq c' hl
    rcases lookup_snoc_some hl with h1 | ⟨h1, _⟩
    · exact hq.2 iq c' h1
    · exact Or.inr (h1 ▸ hq.1)
  · intro iq hi
    rw [hiq] at hi
    cases hi
    refine ⟨Nat.lt_succ_self _, fun c' hl => ?_⟩
    rcases lookup_snoc_some hl with h1 | ⟨_, h1⟩
    · rw [hnone] at h1; cases h1
    · exact h1 ▸ hj

protected theorem sendIqSame {mk : Nat → Stanza} {k : Cont}
    (h : SInv accts groups sub a s) (hc : core c = (abs s).cl a)
    (hk : ContOK accts groups sub a k) (hup : UpOK groups sub a (mk c.nextIq))
    (hiq : iqOf (mk c.nextIq) = some c.nextIq) (hj : ∀ j, j ∈ asked k → j ∈ jidsOf (mk c.nextIq)) :
    SInv accts groups sub a (sendIq s a c mk k) :=
  h.sendIq (hc ▸ h.client a) (IqCompat.of_eq hc) hk hup hiq hj

protected theorem sendToContact {peer : Acct}
    (h : SInv accts groups sub a s) (hc : core c = (abs s).cl a) (hn : (a, n) ∈ sub) :
    SInv accts groups sub a (sendToContact s a c n peer) := by
  unfold sendToContact
  split
  · exact h
  · next ct hct =>
    refine SInv.sendEnc (s := { s with nextCtr := s.nextCtr + 1 }) h hc hn ?_ (fun r hr => by cases hr)
    intro e he p hp
    rw [List.mem_singleton.mp he, show ct.plain = _ from encryptFor_plain hct] at hp
    cases hp; rfl

protected theorem sgTail {g rc : Nat} {t : Sys × Client × List (Option Acct × Ct)}
    (h : SInv accts groups sub a t.1) (hc : core t.2.1 = (abs t.1).cl a) (hn : (a, n) ∈ sub)
    (he : GoodEncs n t.2.2) (hp : ∀ r, part = some r → r ∈ intendedG groups a n) :
    SInv accts groups sub a (sgTail a n g rc part t) := by
  obtain ⟨s1, c1, encs1⟩ := t
  simp only [sgTail]
  split
  · obtain ⟨h1, h2⟩ := ownSenderKey_abs_core s1 c1 g
    generalize ownSenderKey s1 c1 g = o at h1 h2
    obtain ⟨s2, c2, gen⟩ := o
    dsimp only at h1 h2 ⊢
    refine SInv.sendEnc (s := { s2 with nextCtr := s2.nextCtr + 1 }) (h.of_abs h1) (h2.trans (h1 ▸ hc)) hn ?_ hp
    intro e hm p hq
    rcases mem_snoc.mp hm with hm | hm
    · exact he e hm p hq
    · subst hm; cases hq; rfl
  · exact h.sendEnc hc hn he hp

protected theorem sgws {g : Nat} {need : List Acct} {rc : Nat}
    (h : SInv accts groups sub a s) (hc : core c = (abs s).cl a) (hn : (a, n) ∈ sub)
    (hp : ∀ j, need = [j] → rc > 0 → j ∈ intendedG groups a n) :
    SInv accts groups sub a (sendToGroupWithSessions s a c n g need rc) := by
  rw [sendToGroupWithSessions_eq]
  generalize hpart : (match need with | [j] => if rc > 0 then some j else none | _ => none) = part
  obtain ⟨h1, h2, h3⟩ := sgFirst_abs_core_encs s c n g need rc part
  refine SInv.sgTail (h.of_abs h1) (h2.trans (h1 ▸ hc)) hn h3 ?_
  intro r hr
  subst hpart
  split at hr
  · next j =>
    split at hr
    · next hpos => cases hr; exact hp _ rfl hpos
    · cases hr
  · cases hr

protected theorem ensure {g : Nat} {jids : List Acct}
    (h : SInv accts groups sub a s) (hc : core c = (abs s).cl a) (hn : (a, n) ∈ sub)
    (hj' : ∀ j, j ∈ jids → j ∈ accts) :
    SInv accts groups sub a (ensureSessionsAndSend s a c n g jids) := by
  unfold ensureSessionsAndSend
  dsimp only
  split
  · exact h.sgws hc hn (fun j _ hpos => absurd hpos (Nat.lt_irrefl 0))
  · exact h.sendIqSame hc ⟨hn, fun j hj => hj' j (List.mem_filter.mp hj).1⟩ trivial rfl (fun j hj => hj)

protected theorem sendToGroup {g : Nat} {retry : Option (Acct × Nat)}
    (h : SInv accts groups sub a s) (hc : core c = (abs s).cl a) (hn : (a, n) ∈ sub)
    (hr : ∀ who count, retry = some (who, count) → who ∈ intendedG groups a n) :
    SInv accts groups sub a (sendToGroup s a c n g retry) := by
  unfold sendToGroup
  split
  · exact h.sendIqSame hc hn trivial rfl (fun j hj => by cases hj)
  · split
    · exact h.sgws hc hn (fun j _ hpos => absurd hpos (Nat.lt_irrefl 0))
    · next who count =>
      refine h.sgws hc hn fun j e _ => ?_
      cases e
      exact hr _ _ rfl

protected theorem processPlaintext {retry : Option (Acct × Nat)}
    (h : SInv accts groups sub a s) (hc : core c = (abs s).cl a) (hn : (a, n) ∈ sub)
    (hr : ∀ who count, retry = some (who, count) → who ∈ intendedG groups a n) :
    SInv accts groups sub a (processPlaintext s a c n retry) := by
  unfold processPlaintext
  split
  · exact h.sendToGroup hc hn hr
  · next b hb =>
    split
    · exact h.sendToContact hc hn
    · refine h.sendIqSame hc hn trivial rfl fun j hj => ?_
      simpa [asked, hb, jidsOf] using hj

protected theorem sendLayerSend (h : SInv accts groups sub a s) (hn : (a, n) ∈ sub) :
    SInv accts groups sub a (sendLayerSend s a n) := by
  unfold sendLayerSend
  have hs : (getClient s a).skipEnc = [] := (h.client a).skip
  simp only [hs, List.contains_nil, Bool.false_eq_true, if_false]
  exact h.processPlaintext rfl hn (fun _ _ e => by cases e)

protected theorem resetRetries (h : SInv accts groups sub r s) : SInv accts groups sub r (resetRetries s r id) :=
  h.setSame rfl

protected theorem storeSkdm {sender : Acct} {pl : Plain} (h : SInv accts groups sub r s) :
    SInv accts groups sub r (storeSkdm s r sender pl) := by
  unfold storeSkdm
  split
  · exact h
  · exact h.setSame rfl

protected theorem showAndReceipt
    (h : SInv accts groups sub r s) (hm : MsgInfo groups sub r id peer part a n) :
    SInv accts groups sub r (showAndReceipt s r id peer part n.payload) := by
  have h0 := h.client r
  refine h.setEmit { h0 with shown := fun x hx => ?_ } (IqCompat.of_client rfl rfl) (hm.up _) (LinkOK.of_none rfl)
  rcases mem_snoc.mp hx with h1 | h1
  · exact h0.shown x h1
  · subst h1; exact ⟨a, n, hm.1, hm.2.1, rfl, hm.2.2⟩

protected theorem surface {pl : Plain}
    (h : SInv accts groups sub r s) (hm : MsgInfo groups sub r id peer part a n)
    (hp : ∀ p, pl.content = some p → p = n.payload) :
    SInv accts groups sub r (surface s r id peer part pl) := by
  unfold surface
  split
  · next p hpc => rw [hp p hpc]; exact h.showAndReceipt hm
  · exact h

protected theorem sendRetry
    (h : SInv accts groups sub r s) (hm : MsgInfo groups sub r id peer part a n) :
    SInv accts groups sub r (sendRetry s r id peer part) :=
  h.setEmitSame rfl (hm.up _) rfl

protected theorem onDecryptFailure
    (d : Dec)
    (h : SInv accts groups sub r s) (hm : MsgInfo groups sub r id peer part a n)
    (hst : DownOK accts groups sub r st) :
    SInv accts groups sub r (onDecryptFailure s r st id peer part (whoOf peer part) d) := by
  cases d with
  | ok p => exact h
  | duplicate => exact h.emit (hm.up _) (LinkOK.of_none rfl)
  | invalid => exact h.sendRetry hm
  | noSession =>
    simp only [onDecryptFailure]
    have h0 := h.client r
    refine h.sendIq { h0 with pend := ?_ } (IqCompat.of_client rfl rfl) ?_ trivial rfl (fun j hj => hj)
    · intro key l hl x hx
      rcases mem_insert hl with h1 | h1
      · exact h0.pend key l h1 x hx
      · cases h1
        rcases mem_snoc.mp hx with h2 | h2
        · obtain ⟨v, hv, hxv⟩ := lookup_getD_mem h2
          exact h0.pend _ v hv x hxv
        · exact h2 ▸ hst
    · show whoOf peer part ∈ accts
      rw [hm.2.2.2.who]
      exact (h.sub_reg hm.1).1

protected theorem stage2
    (h : SInv accts groups sub r s) (hm : MsgInfo groups sub r id peer part a n)
    (hst : DownOK accts groups sub r st) (he : GoodEncs n encs) :
    SInv accts groups sub r (handleEnc.stage2 s r st id peer part (whoOf peer part) encs) := by
  unfold handleEnc.stage2
  split
  · next ct g hct =>
    dsimp only
    obtain ⟨hdc, _, hdo⟩ := groupDecrypt_spec (getClient s r) g (whoOf (Dest.group g) part) ct
    generalize groupDecrypt (getClient s r) g (whoOf (Dest.group g) part) ct = d at hdc hdo
    have h1 := h.setSame hdc
    split
    · next pl hpl =>
      refine (h1.surface hm fun p hp => ?_).resetRetries
      obtain ⟨e, hemem, hect⟩ := firstKind_mem hct
      exact he e hemem p (hect ▸ hdo pl hpl ▸ hp)
    · exact (h1.sendRetry hm).resetRetries
    · exact h1.onDecryptFailure _ hm hst
  · exact h.resetRetries

protected theorem handleEnc
    (h : SInv accts groups sub r s) (hst : DownOK accts groups sub r st) :
    SInv accts groups sub r (handleEnc s r st) := by
  cases st with
  | msg id peer part im encs pl =>
    obtain ⟨a, n, hm, he⟩ : ∃ a n, MsgInfo groups sub r id peer part a n ∧ GoodEncs n encs :=
      let ⟨a, n, h1, h2, h3, h4, he⟩ := hst; ⟨a, n, ⟨h1, h2, h3, h4⟩, he⟩
    rw [handleEnc_eq]
    have hf := @heFirst_mem encs
    generalize heFirst encs = first at hf
    cases first with
    | none => exact h.stage2 hm hst he
    | some ct =>
      simp only [heMain]
      obtain ⟨hdc, _, hdo⟩ := decrypt_spec (getClient s r) (whoOf peer part) ct
      generalize decrypt (getClient s r) (whoOf peer part) ct = d at hdc hdo
      have h1 := h.setSame hdc
      split
      · next pl' hpl =>
        refine (h1.storeSkdm.surface hm fun p hp => ?_).stage2 hm hst he
        obtain ⟨e, hemem, hect⟩ := hf rfl
        exact he e hemem p (hect ▸ hdo pl' hpl ▸ hp)
      · exact h1.onDecryptFailure _ hm hst
  | _ => exact h

protected theorem foldl_handleEnc (l : List Stanza) :
    ∀ s : Sys, SInv accts groups sub r s → (∀ st, st ∈ l → DownOK accts groups sub r st) →
      SInv accts groups sub r (l.foldl (fun acc st => handleEnc acc r st) s) := by
  induction l with
  | nil => exact fun s h _ => h
  | cons st l ih =>
    exact fun s h hl => ih _ (h.handleEnc (hl st List.mem_cons_self)) fun st' hst' => hl st' (List.mem_cons_of_mem _ hst')

protected theorem processPending (h : SInv accts groups sub r s) :
    SInv accts groups sub r (processPending s r peer part) := by
  unfold processPending
  dsimp only
  have h1 := SInv.foldl_handleEnc ((lookup (getClient s r).pendingIn (peer, part)).getD []) s h fun st hst => by
    obtain ⟨v, hv, hx⟩ := lookup_getD_mem hst
    exact (h.client r).pend _ v hv st hx
  generalize List.foldl _ s _ = s1 at h1 ⊢
  have h0 := h1.client r
  exact h1.setClient { h0 with pend := fun key l hl => h0.pend key l (mem_erase hl) } (IqCompat.of_client rfl rfl)

/-- when every account asked for has keys, only sessions are created (nothing is put on the skip list) -/
protected theorem processKeys {asked got : List Acct} (h : SInv accts groups sub r s)
    (hg : ∀ j, j ∈ asked → j ∈ got) : SInv accts groups sub r (processKeys s r asked got).1 := by
  rw [processKeys_eq]
  suffices H : ∀ acc : Sys × List Acct, SInv accts groups sub r acc.1 →
      SInv accts groups sub r (asked.foldl (keyStep r got) acc).1 from H (s, []) h
  induction asked with
  | nil => exact fun acc h => h
  | cons j l ih =>
    intro acc h
    have e : keyStep r got acc j = (setClient { acc.1 with nextSess := acc.1.nextSess + 1 } r
        (createSession (getClient acc.1 r) j acc.1.nextSess), acc.2 ++ [j]) :=
      if_pos (List.contains_iff_mem.mpr (hg j List.mem_cons_self))
    rw [List.foldl_cons, e]
    exact ih (fun j' hj' => hg j' (List.mem_cons_of_mem _ hj')) _
      (SInv.setSame (s := { acc.1 with nextSess := acc.1.nextSess + 1 }) h rfl)

protected theorem eraseIq (iq : Nat) (h : SInv accts groups sub r s) :
    SInv accts groups sub r (setClient s r { getClient s r with iqReg := erase (getClient s r).iqReg iq }) := by
  have h0 := h.client r
  refine h.setClient { h0 with iq_lt := ?_, conts := ?_ } ⟨Nat.le_refl _, fun iq' c hl => Or.inl ?_⟩
  · intro iq' c hc; exact h0.iq_lt iq' c (mem_erase hc)
  · intro iq' c hc; exact h0.conts iq' c (mem_erase hc)
  · have hl : lookup (erase (getClient s r).iqReg iq) iq' = some c := hl
    rw [lookup_erase] at hl
    split at hl
    · cases hl
    · exact hl

protected theorem resume {s0 : Sys} {got ms : List Acct} {k : Cont}
    (h0 : SInv accts groups sub r s0) (hcont : ContOK accts groups sub r k)
    (hgot : ∀ j, j ∈ asked k → j ∈ got) (hms : ∀ m, m ∈ ms → m ∈ accts) :
    SInv accts groups sub r (resume s0 r got ms k) := by
  -- where keys were asked for, those that arrived are processed first; the interrupted operation goes on from there
  have keys : ∀ l : List Acct, (∀ j, j ∈ l → j ∈ asked k) → SInv accts groups sub r (processKeys s0 r l got).1 :=
    fun l hl => h0.processKeys fun j hj => hgot j (hl j hj)
  cases k with
  | keysForSend n =>
    dsimp only [resume]
    split
    · next b hb =>
      have h1 := keys [b] (by simp [asked, hb])
      exact ite_ind (P := SInv accts groups sub r) (h1.sendToContact rfl hcont) h1
    · exact h0
  | keysForRetry n who count =>
    have h1 := keys [who] (fun j hj => hj)
    exact ite_ind (P := SInv accts groups sub r)
      (h1.processPlaintext rfl hcont.1 fun w c' e' => by cases e'; exact hcont.2) h1
  | keysForPending peer part =>
    have h1 := keys [whoOf peer part] (fun j hj => hj)
    exact ite_ind (P := SInv accts groups sub r) h1 (h1.processPending)
  | groupInfo n =>
    dsimp only [resume]
    split
    · exact h0.ensure rfl hcont fun j hj => hms j (List.mem_filter.mp hj).1
    · exact h0
  | keysForGroup n all l =>
    dsimp only [resume]
    split
    · exact (keys l (fun j hj => hj)).sgws rfl hcont.1 (fun j _ hpos => absurd hpos (Nat.lt_irrefl 0))
    · exact h0

protected theorem onIqResult {iq : Nat} {got ms : List Acct}
    (h : SInv accts groups sub r s)
    (hlink : ∀ k, lookup (getClient s r).iqReg iq = some k → ∀ j, j ∈ asked k → j ∈ got)
    (hms : ∀ m, m ∈ ms → m ∈ accts) :
    SInv accts groups sub r (onIqResult s r iq got ms) := by
  rw [onIqResult_eq]
  split
  · exact h
  · next k hk => exact (h.eraseIq iq).resume ((h.client r).conts iq k (lookup_mem hk)) (hlink k hk) hms

protected theorem bubble (id : Nat) (x : Nat × Dest × Option Acct × RType) (h : SInv accts groups sub r s) :
    SInv accts groups sub r
      (emit (setClient s r { getClient s r with receipts := (getClient s r).receipts ++ [x] }) r (.ack id 1)) :=
  h.setEmitSame rfl trivial rfl

protected theorem filterSent (id : Nat) (b : Bool) (h : SInv accts groups sub r s) :
    SInv accts groups sub r (setClient s r (if b = true then getClient s r else
      { getClient s r with sentQueue := (getClient s r).sentQueue.filter (fun m => m.id != id) })) := by
  have h0 := h.client r
  refine h.setClient ?_ ?_
  · exact ite_ind (P := fun c' => ClientOK accts groups sub r (core c')) h0
      { h0 with sentQ := fun n hn => h0.sentQ n (List.mem_filter.mp hn).1 }
  · exact ite_ind (P := fun c' => IqCompat ((abs s).cl r) (core c')) (IqCompat.of_client rfl rfl) (IqCompat.of_client rfl rfl)

protected theorem onReceipt {t : RType}
    (h : SInv accts groups sub r s) (hd : DownOK accts groups sub r (.receipt id peer part t)) :
    SInv accts groups sub r (onReceipt s r id peer part t) := by
  unfold onReceipt
  dsimp only
  split
  · exact h.bubble id _
  · next n hn =>
    -- the queued node with this id is the submitted one the receipt speaks of
    obtain ⟨n', hn', hid', hwho⟩ := hd
    have hsub : (r, n) ∈ sub := (h.client r).sentQ n (List.mem_of_find?_eq_some hn)
    have hid : n.id = id := by simpa using List.find?_some hn
    obtain rfl : n = n' := (h.sub_ids hsub hn' (hid.trans hid'.symm)).2
    have h1 := h.filterSent id part.isSome
    cases t with
    | delivery => exact h1.bubble id _
    | retry count =>
      dsimp only
      have h2 := h1.emit (st := .ack id 1) trivial (LinkOK.of_none rfl)
      exact h2.sendIq (mk := fun iq => .getKeys iq [whoOf peer part]) (k := .keysForRetry n (whoOf peer part) count)
        (h2.client r) (IqCompat.of_client rfl rfl) ⟨hsub, hwho⟩ trivial rfl (fun j hj => hj)

protected theorem clientReceive
    (h : SInv accts groups sub r s) (hd : DownOK accts groups sub r st) (hl : LinkOK ((abs s).cl r) st) :
    SInv accts groups sub r (clientReceive s r st) := by
  cases st with
  | msg id peer part im encs pl =>
    simp only [clientReceive]
    exact ite_ind (P := SInv accts groups sub r) h (h.handleEnc hd)
  | receipt id peer part t => exact h.onReceipt hd
  | ack id cls => exact h
  | getKeys iq jids => exact h
  | getGroup iq g => exact h
  | keys iq got =>
    exact h.onIqResult (iq := iq) (got := got) (ms := []) (fun k hk j hj => (hl iq rfl).2 k hk j hj) nofun
  | groupInfo iq g ms =>
    exact h.onIqResult (iq := iq) (got := []) (ms := ms) (fun k hk j hj => (hl iq rfl).2 k hk j hj) hd

protected theorem foldl_push (f : Acct → Stanza) (l : List Acct) :
    ∀ s : Sys, SInv accts groups sub a s →
      (∀ m, m ∈ l → m ∈ accts ∧ DownOK accts groups sub m (f m) ∧ iqOf (f m) = none) →
      SInv accts groups sub a (l.foldl (fun acc m => push acc m (f m)) s) := by
  induction l with
  | nil => exact fun s h _ => h
  | cons m l ih =>
    intro s h hl
    obtain ⟨h1, h2, h3⟩ := hl m List.mem_cons_self
    exact ih _ (h.push h1 h2 (LinkOK.of_none h3)) fun m' hm' => hl m' (List.mem_cons_of_mem _ hm')

protected theorem forward {b : Acct} (h : SInv accts groups sub a s) (hd : DownOK accts groups sub b st) (hiq : iqOf st = none) :
    SInv accts groups sub a (if registered s b then push s b st else s) := by
  by_cases hb : registered s b = true
  · rw [if_pos hb]; exact h.push ((h.1.reg b).mp hb) hd (LinkOK.of_none hiq)
  · rw [if_neg hb]; exact h

protected theorem serverProcess_msg {dest : Dest} {im : Bool} {pl : Option Payload}
    (h : SInv accts groups sub a s) (hu : UpOK groups sub a (.msg id dest part im encs pl)) :
    SInv accts groups sub a (serverProcess s a (.msg id dest part im encs pl)) := by
  obtain ⟨_, n, hn, hid, hdest, he, hp⟩ := hu
  -- the acknowledgement goes first; what is forwarded is described against the same submissions
  have h1 := h.push (st := .ack id 0) h.acct trivial (LinkOK.of_none rfl)
  cases dest with
  | user b =>
    simp only [serverProcess]
    exact h1.forward
      ⟨a, n, hn, hid, by rw [intendedG, hdest]; exact List.mem_singleton.mpr rfl, .of_user hdest, he.filter _⟩ rfl
  | group g =>
    simp only [serverProcess]
    split
    · next p => exact h1.forward ⟨a, n, hn, hid, hp p rfl, .of_group hdest, he.filter _⟩ rfl
    · refine SInv.foldl_push _ _ _ h1 fun m hm => ?_
      have hg1 : (push s a (.ack id 0)).groups = groups := h.1.grp
      have hm' : m ∈ intendedG groups a n := by
        rw [intendedG, hdest]
        simpa [members, hg1] using hm
      refine ⟨(h.sub_reg hn).2 m hm', ⟨a, n, hn, hid, hm', .of_group hdest, he.of_plain fun e hmem => ?_⟩, rfl⟩
      rcases List.mem_append.mp hmem with h1 | h1
      · obtain ⟨e', he', rfl⟩ := List.mem_map.mp h1
        exact ⟨e', (List.mem_filter.mp he').1, rfl⟩
      · exact ⟨e, (List.mem_filter.mp h1).1, rfl⟩

protected theorem serverProcess_receipt {t : RType}
    (h : SInv accts groups sub a s) (hu : UpOK groups sub a (.receipt id peer part t)) :
    SInv accts groups sub a (serverProcess s a (.receipt id peer part t)) := by
  obtain ⟨a', n, hn, hid, hint, horig⟩ := hu
  have h1 := h.push (st := .ack id 1) h.acct trivial (LinkOK.of_none rfl)
  -- the receipt goes to the account the message named as its origin, which is the submitter `a'`
  cases peer with
  | user b =>
    simp only [serverProcess]
    cases horig.user_eq
    exact h1.forward ⟨n, hn, hid, hint⟩ rfl
  | group g =>
    simp only [serverProcess]
    cases horig.group_part
    exact h1.forward ⟨n, hn, hid, hint⟩ rfl

protected theorem serverProcess
    (h : SInv accts groups sub a s) (hu : UpOK groups sub a st) (hl : LinkOK ((abs s).cl a) st) :
    SInv accts groups sub a (serverProcess s a st) := by
  cases st with
  | msg id dest part im encs pl => exact h.serverProcess_msg hu
  | receipt id peer part t => exact h.serverProcess_receipt hu
  | ack id cls => exact h
  | keys iq got => exact h
  | groupInfo iq g ms => exact h
  | getKeys iq jids =>
    simp only [serverProcess]
    refine h.push h.acct trivial ?_
    intro iq' hiq
    cases hiq
    obtain ⟨h1, h2⟩ := hl iq rfl
    refine ⟨h1, ?_⟩
    intro c hc j hj
    show j ∈ jids.filter (registered s)
    rw [List.mem_filter]
    exact ⟨h2 c hc j hj, (h.1.reg j).mpr (h.1.asked_reg (lookup_mem hc) j hj)⟩
  | getGroup iq g =>
    simp only [serverProcess]
    refine h.push h.acct ?_ ?_
    · intro m hm
      obtain ⟨v, hv, hx⟩ := lookup_getD_mem hm
      have hg : s.groups = groups := h.1.grp
      rw [hg] at hv
      exact h.1.wf g v hv m hx
    · intro iq' hiq
      cases hiq
      exact hl iq rfl

end SInv

theorem clientReceive_good {s : Sys} {r : Acct} {st : Stanza}
    (h : AInv accts groups (abs s)) (hr : r ∈ accts)
    (hd : DownOK accts groups s.submitted r st) (hl : LinkOK ((abs s).cl r) st) :
    Good accts groups (abs s) (abs (clientReceive s r st)) :=
  (SInv.clientReceive ⟨h, rfl, hr⟩ hd hl).good

theorem serverProcess_good {s : Sys} {a : Acct} {st : Stanza}
    (h : AInv accts groups (abs s)) (ha : a ∈ accts) (hu : UpOK groups s.submitted a st)
    (hl : LinkOK ((abs s).cl a) st) :
    Good accts groups (abs s) (abs (serverProcess s a st)) :=
  (SInv.serverProcess ⟨h, rfl, ha⟩ hu hl).good

theorem restart_inv (h : AInv accts groups (abs s)) (ha : a ∈ accts) :
    AInv accts groups (abs (setClient s a { getClient s a with
      sentQueue := [], pendingIn := [], iqReg := [], retries := [], skipEnc := [] })) := by
  rw [abs_setClient]
  have h0 := h.client a
  refine h.setCl ha ?_ ⟨Nat.le_refl _, ?_⟩
  · exact {
      skip := rfl
      iq_lt := fun iq c hc => by cases hc
      conts := fun iq c hc => by cases hc
      sentQ := fun n hn => by cases hn
      pend := fun key l hl => by cases hl
      shown := h0.shown }
  · intro iq c hc
    cases hc

theorem AInv.appSend (h : AInv accts groups (abs s)) (hall : Allowed s (.appSend a n) = true) :
    a ∈ accts ∧ AInv accts groups (abs { s with submitted := s.submitted ++ [(a, n)] }) := by
  simp only [Allowed, Bool.and_eq_true, Bool.not_eq_true'] at hall
  obtain ⟨⟨hra, hid⟩, hdest⟩ := hall
  have ha : a ∈ accts := (h.reg a).mp hra
  have hg : s.groups = groups := h.grp
  refine ⟨ha, abs_addSub s (a, n) ▸ h.addSub ha ?_ ?_⟩
  · intro r hr
    unfold intendedG at hr
    split at hdest
    · next b hb =>
      rw [hb] at hr
      simp only [List.mem_singleton] at hr
      subst hr
      simp only [Bool.and_eq_true] at hdest
      exact (h.reg r).mp hdest.1
    · next g hgd =>
      rw [hgd] at hr
      simp only [Bool.and_eq_true, List.all_eq_true] at hdest
      have hr' := (List.mem_filter.mp hr).1
      rw [← hg] at hr'
      exact (h.reg r).mp (hdest.2 r hr')
  · intro p hp e
    have hc : (usedIds s).contains n.id = true := List.contains_iff_mem.mpr (List.mem_map.mpr ⟨p, hp, e⟩)
    rw [hc] at hid
    cases hid

def submits : Act → List (Acct × Node)
  | .appSend a n => [(a, n)]
  | _ => []

theorem step_good {s : Sys} {act : Act} (h : AInv accts groups (abs s)) (hall : Allowed s act = true) :
    AInv accts groups (abs (step s act)) ∧ (step s act).submitted = s.submitted ++ submits act := by
  have same : ∀ {s' : Sys}, Good accts groups (abs s) (abs s') → AInv accts groups (abs s') ∧ s'.submitted = s.submitted ++ [] :=
    fun g => ⟨g.1, g.2.trans (List.append_nil _).symm⟩
  cases act with
  | appSend a n =>
    obtain ⟨ha, hadd⟩ := h.appSend hall
    have g := SInv.sendLayerSend (s := { s with submitted := s.submitted ++ [(a, n)] }) ⟨hadd, rfl, ha⟩ (List.mem_append_right _ List.mem_cons_self)
    exact ⟨g.1, g.2.1⟩
  | process a =>
    simp only [step]
    split
    · exact same ⟨h, rfl⟩
    · next st rest heq =>
      obtain ⟨h', ha, hu, hl⟩ := h.popInb (a := a) heq
      rw [← abs_setInbound] at h'
      exact same (serverProcess_good h' ha hu (by rw [abs_setInbound]; exact hl))
  | deliver a f =>
    simp only [step]
    split
    · exact same ⟨h, rfl⟩
    · next st rest heq =>
      obtain ⟨h', ha, hd, hl⟩ := h.popOutb (a := a) heq
      rw [← abs_setOutbound] at h'
      split
      · next id peer part im encs pl =>
        exact same (clientReceive_good (s := { s with faulted := s.faulted ++ [(id, a)] }) h ha hd hl)
      · next id peer part im encs pl =>
        obtain ⟨a', n, h1, h2, h3, h4, he⟩ := hd
        exact same (clientReceive_good (s := { s with outbound := insert s.outbound a rest, faulted := s.faulted ++ [(id, a)] })
          (st := .msg id peer part im (corruptLast encs) pl) h' ha ⟨a', n, h1, h2, h3, h4, he.corruptLast⟩ (LinkOK.of_none rfl))
      · exact same (clientReceive_good h' ha hd (by rw [abs_setOutbound]; exact hl))
  | restart a =>
    simp only [Allowed, Bool.and_eq_true] at hall
    exact ⟨restart_inv h ((h.reg a).mp hall.1.1), (List.append_nil _).symm⟩

theorem step_inv {s : Sys} {act : Act} (h : AInv accts groups (abs s)) (hall : Allowed s act = true) :
    AInv accts groups (abs (step s act)) :=
  (step_good h hall).1

theorem run_inv (acts : List Act) : ∀ s : Sys, AInv accts groups (abs s) → AllowedRun s acts = true →
    AInv accts groups (abs (run s acts)) :=
  run_induction (Inv := fun s _ => AInv accts groups (abs s)) (fun _ _ _ h hall => step_inv h hall) acts

end Fun

theorem init_inv (accts : List Acct) (groups : List (Nat × List Acct)) (hw : WFConfig accts groups) :
    AInv accts groups (abs (initSys accts groups)) where
  reg a := by simp [abs, registered, initSys]
  grp := rfl
  wf g l hg := hw.2.2 (g, l) hg
  sub_reg a n hm := by cases hm
  sub_ids a n a' n' hm := by cases hm
  client r := by
    show ClientOK accts groups [] r (core (getClient (initSys accts groups) r))
    rw [getClient_init]
    exact {
      skip := rfl
      iq_lt := fun iq c hc => by cases hc
      conts := fun iq c hc => by cases hc
      sentQ := fun n hn => by cases hn
      pend := fun key l hl => by cases hl
      shown := fun x hx => by cases hx }
  inb_ok r st hm := by cases hm
  outb_ok r st hm := by cases hm
  wire a id peer part im encs pl hm := by cases hm

/-- no stanza that leaves a client carries a plaintext payload -/
theorem wire_only_ciphertext (accts : List Acct) (groups : List (Nat × List Acct)) (hw : WFConfig accts groups)
    (acts : List Act) (ha : AllowedRun (initSys accts groups) acts = true) :
    ∀ a id peer part im encs pl, (a, Stanza.msg id peer part im encs pl) ∈ (run (initSys accts groups) acts).wire → pl = none :=
  (run_inv acts _ (init_inv accts groups hw) ha).wire

/-- whatever an application is shown was submitted, by the claimed sender, to a destination that includes this
    account, with exactly that content -/
theorem shown_is_genuine (accts : List Acct) (groups : List (Nat × List Acct)) (hw : WFConfig accts groups)
    (acts : List Act) (ha : AllowedRun (initSys accts groups) acts = true) :
    let s := run (initSys accts groups) acts
    ∀ r x, x ∈ (getClient s r).shown →
      ∃ a n, (a, n) ∈ s.submitted ∧ n.id = x.id ∧ n.payload = x.payload ∧ r ∈ intended s a n ∧ OriginOf a n x.peer x.participant := by
  intro s r x hx
  have h := run_inv acts _ (init_inv accts groups hw) ha
  obtain ⟨a, n, h1, h2, h3, h4, h5⟩ := (h.client r).shown x hx
  have hg : s.groups = groups := h.grp
  exact ⟨a, n, h1, h2, h3, by rw [intended_eq, hg]; exact h4, h5⟩

end Yow.E2E
