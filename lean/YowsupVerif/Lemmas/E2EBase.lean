/-
  Association lists (`lookup` / `insert` / `erase`, key lists), the abstraction `abs` of a system state that the safety
  invariant `AInv` reads, the invariant with its preservation by the primitive state updates, induction along a run.
-/
import YowsupVerif.Model.E2EInv
namespace Yow.E2E

theorem mem_snoc {α : Type} {x y : α} {l : List α} : x ∈ l ++ [y] ↔ x ∈ l ∨ x = y := by
  rw [List.mem_append, List.mem_singleton]

theorem ite_ind {α : Sort _} {P : α → Prop} {b : Prop} [Decidable b] {x y : α} (hx : P x) (hy : P y) :
    P (if b then x else y) := by
  split <;> assumption

section Assoc
variable {α β : Type} [DecidableEq α]

theorem lookup_nil (k : α) : lookup ([] : List (α × β)) k = none := rfl

theorem lookup_cons (p : α × β) (l : List (α × β)) (k : α) :
    lookup (p :: l) k = if p.1 = k then some p.2 else lookup l k := by
  unfold lookup
  by_cases h : p.1 = k <;> simp [h]

theorem lookup_append (l m : List (α × β)) (k : α) :
    lookup (l ++ m) k = (lookup l k).or (lookup m k) := by
  induction l with
  | nil => simp [lookup_nil]
  | cons p l ih => simp only [List.cons_append, lookup_cons]; split <;> simp [ih]

theorem lookup_mem {l : List (α × β)} {k : α} {v : β} (h : lookup l k = some v) : (k, v) ∈ l := by
  induction l with
  | nil => simp [lookup_nil] at h
  | cons p l ih =>
    rw [lookup_cons] at h
    split at h
    · next hk => cases h; subst hk; simp
    · exact List.mem_cons_of_mem _ (ih h)

theorem lookup_snoc_some {l : List (α × β)} {k k' : α} {v v' : β} (h : lookup (l ++ [(k, v)]) k' = some v') :
    lookup l k' = some v' ∨ (k' = k ∧ v' = v) := by
  rw [lookup_append, lookup_cons, lookup_nil] at h
  cases ho : lookup l k' with
  | some w => rw [ho] at h; exact Or.inl h
  | none =>
    rw [ho, Option.none_or] at h
    split at h
    · next e => cases h; exact Or.inr ⟨e.symm, rfl⟩
    · cases h

theorem lookup_eq_none_iff {l : List (α × β)} {k : α} : lookup l k = none ↔ ∀ p ∈ l, p.1 ≠ k := by
  simp only [lookup, Option.map_eq_none_iff, List.find?_eq_none, beq_iff_eq, ne_eq]

theorem lookup_getD_mem {l : List (α × List β)} {k : α} {x : β} (h : x ∈ (lookup l k).getD []) :
    ∃ v, (k, v) ∈ l ∧ x ∈ v := by
  cases hl : lookup l k with
  | none => simp [hl] at h
  | some v => exact ⟨v, lookup_mem hl, by simpa [hl] using h⟩

private theorem lookup_map_ne (l : List (α × β)) (k k' : α) (v : β) (h : k' ≠ k) :
    lookup (l.map (fun p => if p.1 == k then (k, v) else p)) k' = lookup l k' := by
  induction l with
  | nil => rfl
  | cons p l ih =>
    simp only [List.map_cons, lookup_cons, ih]
    by_cases hp : p.1 = k
    · have : ¬ k = k' := fun e => h e.symm
      simp [hp, this]
    · simp [hp]

private theorem lookup_map_eq (l : List (α × β)) (k : α) (v : β) (h : l.any (fun p => p.1 == k) = true) :
    lookup (l.map (fun p => if p.1 == k then (k, v) else p)) k = some v := by
  induction l with
  | nil => simp at h
  | cons p l ih =>
    simp only [List.map_cons, lookup_cons]
    by_cases hp : p.1 = k
    · simp [hp]
    · have hb : (p.1 == k) = false := by simp [hp]
      simp only [List.any_cons, hb, Bool.false_or] at h
      simp only [hb, Bool.false_eq_true, if_false, hp]
      exact ih h

theorem lookup_insert (l : List (α × β)) (k k' : α) (v : β) :
    lookup (insert l k v) k' = if k' = k then some v else lookup l k' := by
  unfold insert
  split
  · next h =>
    by_cases hk : k' = k
    · subst hk; rw [if_pos rfl]; exact lookup_map_eq l k' v h
    · rw [if_neg hk]; exact lookup_map_ne l k k' v hk
  · next h =>
    rw [lookup_append]
    by_cases hk : k' = k
    · subst hk
      have : lookup l k' = none :=
        lookup_eq_none_iff.mpr fun p hp e => h (List.any_eq_true.mpr ⟨p, hp, beq_iff_eq.mpr e⟩)
      simp [this, lookup_cons]
    · have : ¬ k = k' := fun e => hk e.symm
      simp [hk, lookup_cons, lookup_nil, this]

theorem mem_insert {l : List (α × β)} {k : α} {v : β} {p : α × β} (h : p ∈ insert l k v) : p ∈ l ∨ p = (k, v) := by
  unfold insert at h
  split at h
  · rw [List.mem_map] at h
    obtain ⟨q, hq, e⟩ := h
    split at e
    · exact Or.inr e.symm
    · exact Or.inl (e ▸ hq)
  · simpa using h

theorem erase_cons_eq (p : α × β) (l : List (α × β)) : erase (p :: l) p.1 = erase l p.1 := by
  unfold erase
  rw [List.filter_cons, if_neg (by rw [bne_self_eq_false]; exact Bool.false_ne_true)]

theorem erase_cons_ne {p : α × β} {k : α} (h : p.1 ≠ k) (l : List (α × β)) : erase (p :: l) k = p :: erase l k := by
  unfold erase
  rw [List.filter_cons, if_pos (bne_iff_ne.mpr h)]

theorem erase_of_fresh {l : List (α × β)} {k : α} (h : ∀ q ∈ l, q.1 ≠ k) : erase l k = l :=
  List.filter_eq_self.mpr fun q hq => bne_iff_ne.mpr (h q hq)

theorem insert_cons_ne {p : α × β} {k : α} (h : p.1 ≠ k) (l : List (α × β)) (v : β) :
    insert (p :: l) k v = p :: insert l k v := by
  have hb : (p.1 == k) = false := beq_false_of_ne h
  simp only [insert, List.any_cons, hb, Bool.false_or, List.map_cons, Bool.false_eq_true, if_false]
  split <;> rfl

theorem insert_cons_eq (p : α × β) {l : List (α × β)} (h : ∀ q ∈ l, q.1 ≠ p.1) (v : β) :
    insert (p :: l) p.1 v = (p.1, v) :: l := by
  unfold insert
  simp only [List.any_cons, beq_self_eq_true, Bool.true_or, if_true, List.map_cons]
  congr 1
  rw [List.map_congr_left (g := id)]
  · exact List.map_id l
  · intro q hq
    rw [if_neg (by rw [beq_iff_eq]; exact h q hq)]; rfl

theorem lookup_erase (l : List (α × β)) (k k' : α) :
    lookup (erase l k) k' = if k' = k then none else lookup l k' := by
  induction l with
  | nil => exact (ite_self _).symm
  | cons p l ih =>
    by_cases hp : p.1 = k
    · subst hp
      rw [erase_cons_eq, ih, lookup_cons]
      by_cases hk : k' = p.1
      · rw [if_pos hk, if_pos hk]
      · rw [if_neg hk, if_neg hk, if_neg fun e => hk e.symm]
    · rw [erase_cons_ne hp, lookup_cons, ih, lookup_cons]
      by_cases hk : k' = k
      · rw [if_pos hk, if_pos hk, if_neg (hk ▸ hp)]
      · rw [if_neg hk, if_neg hk]

def keysNodup (l : List (α × β)) : Prop := (l.map Prod.fst).Nodup

theorem keysNodup_nil : keysNodup ([] : List (α × β)) := List.nodup_nil

theorem mem_keys_iff_any (l : List (α × β)) (k : α) : l.any (fun p => p.1 == k) = true ↔ k ∈ l.map Prod.fst := by
  simp [List.any_eq_true]

theorem keys_insert' (l : List (α × β)) (k : α) (v : β) :
    (insert l k v).map Prod.fst = if l.any (fun p => p.1 == k) then l.map Prod.fst else l.map Prod.fst ++ [k] := by
  unfold insert
  split
  · rw [List.map_map]
    apply List.map_congr_left
    intro p _
    simp only [Function.comp]
    split
    · next h => simp at h; simp [h]
    · rfl
  · simp

theorem any_insert (l : List (α × β)) (k k' : α) (v : β) :
    (insert l k v).any (fun p => p.1 == k') = (l.any (fun p => p.1 == k') || k == k') := by
  rw [Bool.eq_iff_iff, mem_keys_iff_any (insert l k v) k', keys_insert', Bool.or_eq_true, mem_keys_iff_any l k', beq_iff_eq]
  split
  · next h => exact ⟨Or.inl, fun h' => h'.elim id fun e => e ▸ (mem_keys_iff_any l k).mp h⟩
  · rw [mem_snoc]; exact or_congr_right eq_comm

theorem keysNodup_insert {l : List (α × β)} (k : α) (v : β) (h : keysNodup l) : keysNodup (insert l k v) := by
  unfold keysNodup
  rw [keys_insert']
  split
  · exact h
  · next hn =>
    rw [List.nodup_append]
    refine ⟨h, by simp, ?_⟩
    intro a ha b hb e
    simp only [List.mem_singleton] at hb
    subst hb
    subst e
    exact hn ((mem_keys_iff_any l a).mpr ha)

theorem keysNodup_erase {l : List (α × β)} (k : α) (h : keysNodup l) : keysNodup (erase l k) := by
  unfold keysNodup erase
  exact List.Nodup.sublist (List.Sublist.map _ List.filter_sublist) h

theorem keysNodup_append_fresh {l : List (α × β)} {k : α} {v : β} (h : keysNodup l) (hk : ∀ p ∈ l, p.1 ≠ k) :
    keysNodup (l ++ [(k, v)]) := by
  unfold keysNodup
  rw [List.map_append, List.nodup_append]
  refine ⟨h, by simp, ?_⟩
  intro a ha b hb e
  simp only [List.map_cons, List.map_nil, List.mem_singleton] at hb
  obtain ⟨p, hp, rfl⟩ := List.mem_map.mp ha
  exact hk p hp (e.trans hb)

theorem lookup_of_mem {l : List (α × β)} (hn : keysNodup l) {p : α × β} (hp : p ∈ l) : lookup l p.1 = some p.2 := by
  induction l with
  | nil => cases hp
  | cons q l ih =>
    rw [lookup_cons]
    simp only [keysNodup, List.map_cons, List.nodup_cons] at hn
    rcases List.mem_cons.mp hp with h | h
    · subst h; simp
    · have : q.1 ≠ p.1 := by
        intro e
        apply hn.1
        rw [e]
        exact List.mem_map_of_mem h
      rw [if_neg this]
      exact ih hn.2 h

theorem mem_erase_iff {l : List (α × β)} {k : α} {p : α × β} : p ∈ erase l k ↔ p ∈ l ∧ p.1 ≠ k := by
  unfold erase
  simp [List.mem_filter]

theorem mem_erase {l : List (α × β)} {k : α} {p : α × β} (h : p ∈ erase l k) : p ∈ l := (mem_erase_iff.mp h).1

theorem mem_insert_iff {l : List (α × β)} (hn : keysNodup l) {k : α} {v : β} {p : α × β} :
    p ∈ insert l k v ↔ (p ∈ l ∧ p.1 ≠ k) ∨ p = (k, v) := by
  unfold insert
  split
  · next h =>
    rw [List.mem_map]
    constructor
    · rintro ⟨q, hq, e⟩
      split at e
      · exact Or.inr e.symm
      · next hne => subst e; exact Or.inl ⟨hq, by simpa using hne⟩
    · rintro (⟨h1, h2⟩ | h1)
      · exact ⟨p, h1, by simp [h2]⟩
      · obtain ⟨q, hq, hk⟩ := List.any_eq_true.mp h
        exact ⟨q, hq, by simp only [hk, if_true]; exact h1.symm⟩
  · next h =>
    rw [List.mem_append, List.mem_singleton]
    constructor
    · rintro (h1 | h1)
      · left
        refine ⟨h1, ?_⟩
        intro e
        apply h
        exact List.any_eq_true.mpr ⟨p, h1, by simpa using e⟩
      · exact Or.inr h1
    · rintro (⟨h1, _⟩ | h1)
      · exact Or.inl h1
      · exact Or.inr h1

end Assoc

theorem lookup_map_val {α β : Type} [DecidableEq α] (f : α → β → β) (l : List (α × β)) (k : α) :
    lookup (l.map (fun q => (q.1, f q.1 q.2))) k = (lookup l k).map (f k) := by
  induction l with
  | nil => rfl
  | cons p l ih =>
    rw [List.map_cons, lookup_cons, lookup_cons, ih]
    by_cases h : p.1 = k
    · subst h; simp
    · simp [h]

theorem lookup_insert_isSome {α β : Type} [DecidableEq α] (l : List (α × β)) (k : α) (v : β) {j : α}
    (h : (lookup l j).isSome = true) : (lookup (insert l k v) j).isSome = true := by
  rw [lookup_insert]
  split
  · rfl
  · exact h

theorem find?_append_singleton_neg {α : Type} {p : α → Bool} (l : List α) {x : α} (h : p x = false) :
    (l ++ [x]).find? p = l.find? p := by
  rw [List.find?_append]
  cases l.find? p <;> simp [h]

theorem find?_append_singleton_pos {α : Type} {p : α → Bool} {l : List α} {x : α} (hl : ∀ y ∈ l, p y = false) (h : p x = true) :
    (l ++ [x]).find? p = some x := by
  rw [List.find?_append, List.find?_eq_none.mpr (fun y hy => by simp [hl y hy])]
  simp [h]

theorem filter_beq_nodup {l : List Acct} (hn : l.Nodup) (b : Acct) : l.filter (· == b) = if b ∈ l then [b] else [] := by
  induction l with
  | nil => simp
  | cons m l ih =>
    rw [List.nodup_cons] at hn
    rw [List.filter_cons, ih hn.2]
    by_cases hb : m = b
    · subst hb; simp [hn.1]
    · have : ¬ b = m := fun e => hb e.symm
      simp [hb, this]

theorem count_filter_or {α : Type} (l : List α) (p q : α → Bool) (f : α → Nat) (n : Nat) (hd : ∀ e ∈ l, ¬ (p e = true ∧ q e = true)) :
    ((l.filter (fun e => p e || q e)).map f).count n = ((l.filter p).map f).count n + ((l.filter q).map f).count n := by
  induction l with
  | nil => rfl
  | cons e l ih =>
    have hi := ih (fun e' he' => hd e' (List.mem_cons_of_mem _ he'))
    have he := hd e List.mem_cons_self
    simp only [List.filter_cons]
    cases hp : p e <;> cases hq : q e
    · exact hi
    · simp only [Bool.false_or, if_true, Bool.false_eq_true, if_false, List.map_cons, List.count_cons, hi, Nat.add_assoc]
    · simp only [Bool.or_false, if_true, Bool.false_eq_true, if_false, List.map_cons, List.count_cons, hi, Nat.add_right_comm]
    · exact absurd ⟨hp, hq⟩ he

theorem forall_append {P : Acct → Stanza → Prop} {f g : Acct → List Stanza} (hf : ∀ b st', st' ∈ f b → P b st')
    (hg : ∀ b st', st' ∈ g b → P b st') : ∀ b st', st' ∈ f b ++ g b → P b st' := by
  intro b st' hm
  rcases List.mem_append.mp hm with h | h
  · exact hf b st' h
  · exact hg b st' h

theorem ite_and_swap (p q : Prop) [Decidable p] [Decidable q] (n : Nat) :
    (if p ∧ q then n else 0) = if q then (if p then n else 0) else 0 := by
  by_cases hp : p <;> by_cases hq : q <;> simp [hp, hq]

theorem isSome_isNone {α : Type} {o : Option α} (h1 : o.isSome = true) (h2 : o.isNone = true) : False := by
  cases o
  · cases h1
  · cases h2

/-- the part of a client's state the safety invariant talks about -/
structure Core where
  sentQueue : List Node
  pendingIn : List ((Dest × Option Acct) × List Stanza)
  iqReg : List (Nat × Cont)
  skipEnc : List Dest
  nextIq : Nat
  shown : List Shown

def core (c : Client) : Core := ⟨c.sentQueue, c.pendingIn, c.iqReg, c.skipEnc, c.nextIq, c.shown⟩

/-- the part of a system state the safety invariant talks about, association lists read as functions -/
@[ext] structure ASys where
  reg : Acct → Bool
  cl : Acct → Core
  inb : Acct → List Stanza
  outb : Acct → List Stanza
  groups : List (Nat × List Acct)
  submitted : List (Acct × Node)
  wire : List (Acct × Stanza)

def abs (s : Sys) : ASys :=
  ⟨registered s, fun r => core (getClient s r), queueOf s.inbound, queueOf s.outbound, s.groups, s.submitted, s.wire⟩

namespace ASys
def setCl (A : ASys) (a : Acct) (k : Core) : ASys :=
  { A with reg := fun b => A.reg b || a == b, cl := fun b => if b = a then k else A.cl b }
def emit (A : ASys) (a : Acct) (st : Stanza) : ASys :=
  { A with inb := fun b => if b = a then A.inb a ++ [st] else A.inb b, wire := A.wire ++ [(a, st)] }
def push (A : ASys) (a : Acct) (st : Stanza) : ASys :=
  { A with outb := fun b => if b = a then A.outb a ++ [st] else A.outb b }
def setInb (A : ASys) (a : Acct) (l : List Stanza) : ASys :=
  { A with inb := fun b => if b = a then l else A.inb b }
def setOutb (A : ASys) (a : Acct) (l : List Stanza) : ASys :=
  { A with outb := fun b => if b = a then l else A.outb b }
def addSub (A : ASys) (p : Acct × Node) : ASys :=
  { A with submitted := A.submitted ++ [p] }
end ASys

theorem getClient_setClient (s : Sys) (a b : Acct) (c : Client) :
    getClient (setClient s a c) b = if b = a then c else getClient s b := by
  unfold getClient setClient
  simp only [lookup_insert]
  split <;> rfl

theorem getClient_setClient_self (s : Sys) (a : Acct) (c : Client) : getClient (setClient s a c) a = c := by
  rw [getClient_setClient, if_pos rfl]

theorem getClient_congr {s s' : Sys} (h : s'.clients = s.clients) (z : Acct) : getClient s' z = getClient s z := by
  unfold getClient; rw [h]

theorem registered_setClient (s : Sys) (a b : Acct) (c : Client) :
    registered (setClient s a c) b = (registered s b || a == b) := by
  unfold registered setClient
  exact any_insert _ _ _ _

theorem queueOf_insert (q : List (Acct × List Stanza)) (a b : Acct) (l : List Stanza) :
    queueOf (insert q a l) b = if b = a then l else queueOf q b := by
  unfold queueOf
  simp only [lookup_insert]
  split <;> rfl

theorem mem_queueOf_snoc {q : List (Acct × List Stanza)} {a b : Acct} {st st' : Stanza}
    (h : st' ∈ queueOf (insert q a (queueOf q a ++ [st])) b) : st' ∈ queueOf q b ∨ st' = st := by
  rw [queueOf_insert] at h
  split at h
  · next e => subst e; exact mem_snoc.mp h
  · exact Or.inl h

theorem queueOf_nil_of_all {q : List (Acct × List Stanza)} (h : q.all (fun p => p.2.isEmpty) = true) (a : Acct) :
    queueOf q a = [] := by
  unfold queueOf
  cases hl : lookup q a with
  | none => rfl
  | some v => exact List.isEmpty_iff.mp (List.all_eq_true.mp h _ (lookup_mem hl))

theorem mem_queueOf_pop {q : List (Acct × List Stanza)} {a : Acct} {st : Stanza} {rest : List Stanza} (hq : queueOf q a = st :: rest)
    {b : Acct} {st' : Stanza} (h : st' ∈ queueOf (insert q a rest) b) : st' ∈ queueOf q b := by
  rw [queueOf_insert] at h
  split at h
  · next e => subst e; rw [hq]; exact List.mem_cons_of_mem _ h
  · exact h

theorem queueOf_insert_fun (q : List (Acct × List Stanza)) (a : Acct) (l : List Stanza) :
    queueOf (insert q a l) = fun b => if b = a then l else queueOf q b :=
  funext fun b => queueOf_insert q a b l

theorem abs_setClient (s : Sys) (a : Acct) (c : Client) : abs (setClient s a c) = (abs s).setCl a (core c) := by
  have h1 : registered (setClient s a c) = fun b => registered s b || a == b :=
    funext fun b => registered_setClient s a b c
  have h2 : (fun b => core (getClient (setClient s a c) b)) = fun b => if b = a then core c else core (getClient s b) :=
    funext fun b => by rw [getClient_setClient]; split <;> rfl
  show ASys.mk (registered (setClient s a c)) (fun b => core (getClient (setClient s a c) b)) _ _ _ _ _ = _
  rw [h1, h2]; rfl

theorem cl_setClient_self (s : Sys) (a : Acct) (c : Client) : (abs (setClient s a c)).cl a = core c := by
  show core (getClient (setClient s a c) a) = core c
  rw [getClient_setClient_self]

theorem abs_emit (s : Sys) (a : Acct) (st : Stanza) : abs (emit s a st) = (abs s).emit a st := by
  show ASys.mk _ _ (queueOf (insert _ _ _)) _ _ _ _ = _
  rw [queueOf_insert_fun]; rfl

theorem abs_push (s : Sys) (a : Acct) (st : Stanza) : abs (push s a st) = (abs s).push a st := by
  show ASys.mk _ _ _ (queueOf (insert _ _ _)) _ _ _ = _
  rw [queueOf_insert_fun]; rfl

theorem abs_setInbound (s : Sys) (a : Acct) (l : List Stanza) :
    abs { s with inbound := insert s.inbound a l } = (abs s).setInb a l := by
  show ASys.mk _ _ (queueOf (insert _ _ _)) _ _ _ _ = _
  rw [queueOf_insert_fun]; rfl

theorem abs_setOutbound (s : Sys) (a : Acct) (l : List Stanza) :
    abs { s with outbound := insert s.outbound a l } = (abs s).setOutb a l := by
  show ASys.mk _ _ _ (queueOf (insert _ _ _)) _ _ _ = _
  rw [queueOf_insert_fun]; rfl

theorem abs_addSub (s : Sys) (p : Acct × Node) :
    abs { s with submitted := s.submitted ++ [p] } = (abs s).addSub p := rfl

@[simp] theorem abs_nextGen (s : Sys) (x : Nat) : abs { s with nextGen := x } = abs s := rfl
@[simp] theorem abs_nextSess (s : Sys) (x : Nat) : abs { s with nextSess := x } = abs s := rfl
@[simp] theorem abs_nextCtr (s : Sys) (x : Nat) : abs { s with nextCtr := x } = abs s := rfl
@[simp] theorem abs_faulted (s : Sys) (x : List (Nat × Acct)) : abs { s with faulted := x } = abs s := rfl

/-- the account a stanza's `from` / `participant` attributes name -/
def whoOf (peer : Dest) (part : Option Acct) : Acct :=
  match part with
  | some p => p
  | none => match peer with | .user a => a | .group _ => 0

def intendedG (groups : List (Nat × List Acct)) (a : Acct) (n : Node) : List Acct :=
  match n.dest with
  | .user b => [b]
  | .group g => ((lookup groups g).getD []).filter (· != a)

theorem intended_eq (s : Sys) (a : Acct) (n : Node) : intended s a n = intendedG s.groups a n := rfl

def Origin (a : Acct) (n : Node) (peer : Dest) (part : Option Acct) : Prop :=
  match n.dest with
  | .user _ => peer = .user a ∧ part = none
  | .group g => peer = .group g ∧ part = some a

theorem Origin.who {a : Acct} {n : Node} {peer : Dest} {part : Option Acct} (h : Origin a n peer part) :
    whoOf peer part = a := by
  unfold Origin at h
  split at h
  · obtain ⟨rfl, rfl⟩ := h; rfl
  · obtain ⟨rfl, rfl⟩ := h; rfl

theorem Origin.of_user {a : Acct} {n : Node} {b : Acct} (hd : n.dest = .user b) : Origin a n (.user a) none := by
  rw [Origin, hd]; exact ⟨rfl, rfl⟩

theorem Origin.of_group {a : Acct} {n : Node} {g : Nat} (hd : n.dest = .group g) : Origin a n (.group g) (some a) := by
  rw [Origin, hd]; exact ⟨rfl, rfl⟩

theorem Origin.user_eq {a : Acct} {n : Node} {b : Acct} {part : Option Acct} (h : Origin a n (.user b) part) : b = a := by
  unfold Origin at h
  split at h
  · exact Dest.user.inj h.1
  · exact Dest.noConfusion h.1

theorem Origin.group_part {a : Acct} {n : Node} {g : Nat} {part : Option Acct} (h : Origin a n (.group g) part) :
    part = some a := by
  unfold Origin at h
  split at h
  · exact Dest.noConfusion h.1
  · exact h.2

def GoodEncs (n : Node) (encs : List (Option Acct × Ct)) : Prop :=
  ∀ e ∈ encs, ∀ p, e.2.plain.content = some p → p = n.payload

def iqOf : Stanza → Option Nat
  | .getKeys iq _ => some iq
  | .keys iq _ => some iq
  | .getGroup iq _ => some iq
  | .groupInfo iq _ _ => some iq
  | _ => none

def jidsOf : Stanza → List Acct
  | .getKeys _ j => j
  | .keys _ j => j
  | _ => []

/-- the accounts whose keys a continuation waits for -/
def asked : Cont → List Acct
  | .keysForSend n => (match n.dest with | .user b => [b] | .group _ => [])
  | .keysForRetry _ who _ => [who]
  | .keysForPending peer part => [whoOf peer part]
  | .groupInfo _ => []
  | .keysForGroup _ _ l => l

section Inv
variable (accts : List Acct) (groups : List (Nat × List Acct))

/-- a stanza in the queue from client `a` to the server -/
def UpOK (sub : List (Acct × Node)) (a : Acct) : Stanza → Prop
  | .msg id dest part _ encs pl =>
    pl = none ∧ ∃ n, (a, n) ∈ sub ∧ n.id = id ∧ n.dest = dest ∧ GoodEncs n encs ∧ ∀ r, part = some r → r ∈ intendedG groups a n
  | .receipt id peer part _ => ∃ a' n, (a', n) ∈ sub ∧ n.id = id ∧ a ∈ intendedG groups a' n ∧ Origin a' n peer part
  | _ => True

/-- a stanza in the queue from the server to client `r`, or parked at `r` -/
def DownOK (sub : List (Acct × Node)) (r : Acct) : Stanza → Prop
  | .msg id peer part _ encs _ =>
    ∃ a n, (a, n) ∈ sub ∧ n.id = id ∧ r ∈ intendedG groups a n ∧ Origin a n peer part ∧ GoodEncs n encs
  | .receipt id peer part _ => ∃ n, (r, n) ∈ sub ∧ n.id = id ∧ whoOf peer part ∈ intendedG groups r n
  | .groupInfo _ _ ms => ∀ m ∈ ms, m ∈ accts
  | _ => True

def ContOK (sub : List (Acct × Node)) (a : Acct) : Cont → Prop
  | .keysForSend n => (a, n) ∈ sub
  | .keysForRetry n who _ => (a, n) ∈ sub ∧ who ∈ intendedG groups a n
  | .keysForPending peer part => whoOf peer part ∈ accts
  | .groupInfo n => (a, n) ∈ sub
  | .keysForGroup n _ l => (a, n) ∈ sub ∧ ∀ j ∈ l, j ∈ accts

def ShownOK (sub : List (Acct × Node)) (r : Acct) (x : Shown) : Prop :=
  ∃ a n, (a, n) ∈ sub ∧ n.id = x.id ∧ n.payload = x.payload ∧ r ∈ intendedG groups a n ∧ Origin a n x.peer x.participant

structure ClientOK (sub : List (Acct × Node)) (r : Acct) (k : Core) : Prop where
  skip : k.skipEnc = []
  iq_lt : ∀ iq c, (iq, c) ∈ k.iqReg → iq < k.nextIq
  conts : ∀ iq c, (iq, c) ∈ k.iqReg → ContOK accts groups sub r c
  sentQ : ∀ n, n ∈ k.sentQueue → (r, n) ∈ sub
  pend : ∀ key l, (key, l) ∈ k.pendingIn → ∀ st, st ∈ l → DownOK accts groups sub r st
  shown : ∀ x, x ∈ k.shown → ShownOK groups sub r x

/-- an iq stanza carries an id the client already used, and answers what the continuation under that id waits for -/
def LinkOK (k : Core) (st : Stanza) : Prop :=
  ∀ iq, iqOf st = some iq → iq < k.nextIq ∧ ∀ c, lookup k.iqReg iq = some c → ∀ j, j ∈ asked c → j ∈ jidsOf st

def IqCompat (old new : Core) : Prop :=
  old.nextIq ≤ new.nextIq ∧ ∀ iq c, lookup new.iqReg iq = some c → lookup old.iqReg iq = some c ∨ old.nextIq ≤ iq

theorem IqCompat.rfl' {k k' : Core} (h1 : k'.nextIq = k.nextIq) (h2 : k'.iqReg = k.iqReg) : IqCompat k k' :=
  ⟨by omega, fun _ _ h => Or.inl (h2 ▸ h)⟩

theorem LinkOK.compat {old new : Core} {st : Stanza} (hq : IqCompat old new) (hl : LinkOK old st) : LinkOK new st := by
  intro iq hiq
  obtain ⟨h1, h2⟩ := hl iq hiq
  refine ⟨Nat.lt_of_lt_of_le h1 hq.1, fun c hc => ?_⟩
  rcases hq.2 iq c hc with h | h
  · exact h2 c h
  · omega

theorem LinkOK.of_none {k : Core} {st : Stanza} (h : iqOf st = none) : LinkOK k st := by
  intro iq hiq; rw [h] at hiq; cases hiq

structure AInv (A : ASys) : Prop where
  reg : ∀ a, A.reg a = true ↔ a ∈ accts
  grp : A.groups = groups
  wf : ∀ g l, (g, l) ∈ groups → ∀ m, m ∈ l → m ∈ accts
  sub_reg : ∀ a n, (a, n) ∈ A.submitted → a ∈ accts ∧ ∀ r, r ∈ intendedG groups a n → r ∈ accts
  sub_ids : ∀ a n a' n', (a, n) ∈ A.submitted → (a', n') ∈ A.submitted → n.id = n'.id → a = a' ∧ n = n'
  client : ∀ r, ClientOK accts groups A.submitted r (A.cl r)
  inb_ok : ∀ r st, st ∈ A.inb r → r ∈ accts ∧ UpOK groups A.submitted r st ∧ LinkOK (A.cl r) st
  outb_ok : ∀ r st, st ∈ A.outb r → r ∈ accts ∧ DownOK accts groups A.submitted r st ∧ LinkOK (A.cl r) st
  wire : ∀ a id peer part im encs pl, (a, Stanza.msg id peer part im encs pl) ∈ A.wire → pl = none

variable {accts groups}

theorem UpOK.mono {sub sub' : List (Acct × Node)} (h : ∀ p, p ∈ sub → p ∈ sub') {a : Acct} {st : Stanza} :
    UpOK groups sub a st → UpOK groups sub' a st := by
  cases st with
  | msg id dest part im encs pl => rintro ⟨h1, n, hn, rest⟩; exact ⟨h1, n, h _ hn, rest⟩
  | receipt id peer part t => rintro ⟨a', n, hn, rest⟩; exact ⟨a', n, h _ hn, rest⟩
  | _ => exact id

theorem DownOK.mono {sub sub' : List (Acct × Node)} (h : ∀ p, p ∈ sub → p ∈ sub') {r : Acct} {st : Stanza} :
    DownOK accts groups sub r st → DownOK accts groups sub' r st := by
  cases st with
  | msg id dest part im encs pl => rintro ⟨a, n, hn, rest⟩; exact ⟨a, n, h _ hn, rest⟩
  | receipt id peer part t => rintro ⟨n, hn, rest⟩; exact ⟨n, h _ hn, rest⟩
  | _ => exact id

theorem ContOK.mono {sub sub' : List (Acct × Node)} (h : ∀ p, p ∈ sub → p ∈ sub') {a : Acct} {c : Cont} :
    ContOK accts groups sub a c → ContOK accts groups sub' a c := by
  cases c with
  | keysForSend n => exact h _
  | keysForRetry n who count => exact fun ⟨h1, h2⟩ => ⟨h _ h1, h2⟩
  | keysForPending peer part => exact id
  | groupInfo n => exact h _
  | keysForGroup n all l => exact fun ⟨h1, h2⟩ => ⟨h _ h1, h2⟩

theorem ShownOK.mono {sub sub' : List (Acct × Node)} (h : ∀ p, p ∈ sub → p ∈ sub') {r : Acct} {x : Shown} :
    ShownOK groups sub r x → ShownOK groups sub' r x := by
  rintro ⟨a, n, hn, rest⟩; exact ⟨a, n, h _ hn, rest⟩

theorem ClientOK.mono {sub sub' : List (Acct × Node)} (h : ∀ p, p ∈ sub → p ∈ sub') {r : Acct} {k : Core}
    (hk : ClientOK accts groups sub r k) : ClientOK accts groups sub' r k :=
  { hk with
    conts := fun iq c hc => (hk.conts iq c hc).mono h
    sentQ := fun n hn => h _ (hk.sentQ n hn)
    pend := fun key l hl st hst => (hk.pend key l hl st hst).mono h
    shown := fun x hx => (hk.shown x hx).mono h }

theorem AInv.asked_reg {A : ASys} (h : AInv accts groups A) {r : Acct} {iq : Nat} {c : Cont}
    (hc : (iq, c) ∈ (A.cl r).iqReg) : ∀ j, j ∈ asked c → j ∈ accts := by
  have hk := (h.client r).conts iq c hc
  intro j hj
  cases c with
  | keysForSend n =>
    -- the one account asked for is the node's destination, an intended recipient of a submitted node
    have hi := (h.sub_reg r n hk).2 j
    simp only [asked] at hj
    simp only [intendedG] at hi
    split at hj
    · next b hb => rw [hb] at hi; exact hi hj
    · cases hj
  | keysForRetry n who count => cases List.mem_singleton.mp hj; exact (h.sub_reg r n hk.1).2 _ hk.2
  | keysForPending peer part => cases List.mem_singleton.mp hj; exact hk
  | groupInfo n => cases hj
  | keysForGroup n all l => exact hk.2 j hj

theorem AInv.setCl {A : ASys} (h : AInv accts groups A) {a : Acct} {k : Core} (ha : a ∈ accts)
    (hk : ClientOK accts groups A.submitted a k) (hq : IqCompat (A.cl a) k) : AInv accts groups (A.setCl a k) :=
  -- a link to the new client state follows from the link to the old one
  have link : ∀ r st, LinkOK (A.cl r) st → LinkOK (if r = a then k else A.cl r) st := fun r st h3 => by
    split
    · next e => subst e; exact h3.compat hq
    · exact h3
  { h with
    reg := fun b => by
      show (A.reg b || a == b) = true ↔ b ∈ accts
      by_cases hb : a = b
      · subst hb; simp [ha]
      · simp [hb, h.reg b]
    client := fun r => by
      show ClientOK accts groups A.submitted r (if r = a then k else A.cl r)
      split
      · next e => subst e; exact hk
      · exact h.client r
    inb_ok := fun r st hst => let ⟨h1, h2, h3⟩ := h.inb_ok r st hst; ⟨h1, h2, link r st h3⟩
    outb_ok := fun r st hst => let ⟨h1, h2, h3⟩ := h.outb_ok r st hst; ⟨h1, h2, link r st h3⟩ }

theorem AInv.emit {A : ASys} (h : AInv accts groups A) {a : Acct} {st : Stanza} (ha : a ∈ accts)
    (hu : UpOK groups A.submitted a st) (hl : LinkOK (A.cl a) st) : AInv accts groups (A.emit a st) :=
  { h with
    inb_ok := fun r st' hst => by
      have hst : st' ∈ (if r = a then A.inb a ++ [st] else A.inb r) := hst
      split at hst
      · next e =>
        subst e
        rcases mem_snoc.mp hst with h1 | h1
        · exact h.inb_ok r st' h1
        · subst h1; exact ⟨ha, hu, hl⟩
      · exact h.inb_ok r st' hst
    wire := fun a' id peer part im encs pl hw => by
      have hw : (a', Stanza.msg id peer part im encs pl) ∈ A.wire ++ [(a, st)] := hw
      rcases mem_snoc.mp hw with h1 | h1
      · exact h.wire _ _ _ _ _ _ _ h1
      · cases h1; exact hu.1 }

theorem AInv.push {A : ASys} (h : AInv accts groups A) {a : Acct} {st : Stanza} (ha : a ∈ accts)
    (hd : DownOK accts groups A.submitted a st) (hl : LinkOK (A.cl a) st) : AInv accts groups (A.push a st) :=
  { h with
    outb_ok := fun r st' hst => by
      have hst : st' ∈ (if r = a then A.outb a ++ [st] else A.outb r) := hst
      split at hst
      · next e =>
        subst e
        rcases mem_snoc.mp hst with h1 | h1
        · exact h.outb_ok r st' h1
        · subst h1; exact ⟨ha, hd, hl⟩
      · exact h.outb_ok r st' hst }

theorem AInv.setInb {A : ASys} (h : AInv accts groups A) {a : Acct} {l : List Stanza}
    (hl : ∀ st, st ∈ l → st ∈ A.inb a) : AInv accts groups (A.setInb a l) :=
  { h with
    inb_ok := fun r st' hst => by
      have hst : st' ∈ (if r = a then l else A.inb r) := hst
      split at hst
      · next e => exact h.inb_ok r st' (e ▸ hl _ hst)
      · exact h.inb_ok r st' hst }

theorem AInv.setOutb {A : ASys} (h : AInv accts groups A) {a : Acct} {l : List Stanza}
    (hl : ∀ st, st ∈ l → st ∈ A.outb a) : AInv accts groups (A.setOutb a l) :=
  { h with
    outb_ok := fun r st' hst => by
      have hst : st' ∈ (if r = a then l else A.outb r) := hst
      split at hst
      · next e => exact h.outb_ok r st' (e ▸ hl _ hst)
      · exact h.outb_ok r st' hst }

theorem AInv.popInb {A : ASys} (h : AInv accts groups A) {a : Acct} {st : Stanza} {rest : List Stanza}
    (hq : A.inb a = st :: rest) :
    AInv accts groups (A.setInb a rest) ∧ a ∈ accts ∧ UpOK groups A.submitted a st ∧ LinkOK (A.cl a) st :=
  ⟨h.setInb fun _ hst => hq ▸ List.mem_cons_of_mem _ hst, h.inb_ok a st (hq ▸ List.mem_cons_self)⟩

theorem AInv.popOutb {A : ASys} (h : AInv accts groups A) {a : Acct} {st : Stanza} {rest : List Stanza}
    (hq : A.outb a = st :: rest) :
    AInv accts groups (A.setOutb a rest) ∧ a ∈ accts ∧ DownOK accts groups A.submitted a st ∧ LinkOK (A.cl a) st :=
  ⟨h.setOutb fun _ hst => hq ▸ List.mem_cons_of_mem _ hst, h.outb_ok a st (hq ▸ List.mem_cons_self)⟩

theorem AInv.addSub {A : ASys} (h : AInv accts groups A) {a : Acct} {n : Node} (ha : a ∈ accts)
    (hi : ∀ r, r ∈ intendedG groups a n → r ∈ accts) (hid : ∀ p, p ∈ A.submitted → p.2.id ≠ n.id) :
    AInv accts groups (A.addSub (a, n)) :=
  have hm : ∀ p, p ∈ A.submitted → p ∈ (A.addSub (a, n)).submitted := fun p hp => List.mem_append_left _ hp
  { h with
    sub_reg := fun a' n' hp => by
      rcases mem_snoc.mp hp with h1 | h1
      · exact h.sub_reg a' n' h1
      · cases h1; exact ⟨ha, hi⟩
    sub_ids := fun a1 n1 a2 n2 h1 h2 e => by
      rcases mem_snoc.mp h1 with h1 | h1 <;> rcases mem_snoc.mp h2 with h2 | h2
      · exact h.sub_ids _ _ _ _ h1 h2 e
      · cases h2; exact absurd e (hid _ h1)
      · cases h1; exact absurd e.symm (hid _ h2)
      · cases h1; cases h2; exact ⟨rfl, rfl⟩
    client := fun r => (h.client r).mono hm
    inb_ok := fun r st hst => let ⟨h1, h2, h3⟩ := h.inb_ok r st hst; ⟨h1, h2.mono hm, h3⟩
    outb_ok := fun r st hst => let ⟨h1, h2, h3⟩ := h.outb_ok r st hst; ⟨h1, h2.mono hm, h3⟩ }

def Good (accts : List Acct) (groups : List (Nat × List Acct)) (A A' : ASys) : Prop :=
  AInv accts groups A' ∧ A'.submitted = A.submitted

/-- the invariant as an operation on behalf of the registered account `a` meets it; `sub` names the list of submissions,
    which no operation changes, so side conditions stated over `sub` need no transport -/
def SInv (accts : List Acct) (groups : List (Nat × List Acct)) (sub : List (Acct × Node)) (a : Acct) (s : Sys) : Prop :=
  AInv accts groups (abs s) ∧ s.submitted = sub ∧ a ∈ accts

end Inv

/-- the invariant may speak of the actions still to come (that none is a fault, that the submissions stay below a bound) -/
theorem run_induction {Inv : Sys → List Act → Prop}
    (hstep : ∀ s act acts, Inv s (act :: acts) → Allowed s act = true → Inv (step s act) acts) :
    ∀ acts s, Inv s acts → AllowedRun s acts = true → Inv (run s acts) []
  | [], _, h, _ => h
  | act :: acts, s, h, ha => by
    rw [AllowedRun, Bool.and_eq_true] at ha
    exact run_induction hstep acts (step s act) (hstep s act acts h ha.1) ha.2

end Yow.E2E
