/-
  `Ready` describes the state the send layer starts from (a submission, or a continuation whose answer was taken from the
  queue), `Sent` what a sending step makes of it as far as decryptability goes; one lemma `Ready … → Sent …` per function
  of the send layer, from its view equation and the step of `E2EDecSend`.
-/
import YowsupVerif.Lemmas.E2EDecSend
namespace Yow.E2E

theorem iqOf_eq_stanzaIq (st : Stanza) : iqOf st = stanzaIq st := by cases st <;> rfl

section
variable {accts : List Acct} {groups : List (Nat × List Acct)}

theorem DV.addSub {V : View} (h : DV groups V) (p : Acct × Node) : DV groups (V.addSub p) :=
  ⟨h.p0, h.d2, h.up, h.down, h.g2, h.c1, h.c2⟩

theorem FInv.acc {s : Sys} (h : FInv accts groups s) {x : Acct} (hx : x ∈ accts) : x ∈ (view s).accounts :=
  h.tv.mem_acc hx

/-- query numbers in use, in the registry and on the wire, are below the next one -/
theorem iq_bounds {s : Sys} (hA : AInv accts groups (abs s)) (x : Acct) :
    (∀ e ∈ (getClient s x).iqReg, e.1 < (getClient s x).nextIq) ∧
    ∀ st ∈ queueOf s.inbound x ++ queueOf s.outbound x, ∀ i, stanzaIq st = some i → i < (getClient s x).nextIq := by
  refine ⟨fun e he => (hA.client x).iq_lt e.1 e.2 he, ?_⟩
  intro st hst i hi
  rw [← iqOf_eq_stanzaIq] at hi
  rcases List.mem_append.mp hst with h1 | h1
  · exact ((hA.inb_ok x st h1).2.2 i hi).1
  · exact ((hA.outb_ok x st h1).2.2 i hi).1

end

theorem CSrc.init {groups V x cons rest} (hq : V.outb x = cons ++ rest)
    (hcons : ∀ st ∈ cons, ∀ id peer part im encs pl, st ≠ .msg id peer part im encs pl)
    (hlt : ∀ e ∈ (V.cl x).iqReg, e.1 < (V.cl x).nextIq)
    (hlink : ∀ st ∈ V.inb x ++ V.outb x, ∀ i, stanzaIq st = some i → i < (V.cl x).nextIq) :
    CSrc groups V x cons rest (V.cl x) :=
  ⟨hq, hcons, fun _ _ h => h, fun _ _ h _ => h, rfl, SameBut.rfl' _, fun _ h => h, hlt, hlink⟩

theorem CSrc.trans {groups V x cons rest c1} {c2 : Client} (hs : CSrc groups V x cons rest c1)
    (hk : ∀ j σ, known c1 j σ → known c2 j σ)
    (hd2 : ∀ j se, lookup c2.sessions j = some se → se.pendingPre = false → lookup c1.sessions j = some se)
    (hp : c2.peerSK = c1.peerSK) (hsame : SameBut c1 c2) (hiq : ∀ e ∈ c2.iqReg, e ∈ c1.iqReg) :
    CSrc groups V x cons rest c2 :=
  { hs with
    known_mono := fun j σ h => hk j σ (hs.known_mono j σ h)
    answered_old := fun j se h hpre => hs.answered_old j se (hd2 j se h hpre) hpre
    peerSK := hp.trans hs.peerSK
    same := hs.same.trans hsame
    reg_sub := fun e he => hs.reg_sub e (hiq e he) }

/-- a sending step of `x`, seen from the view `V` in which the stanzas it consumed are still queued: what `x` opened or
    showed and its peers' sender keys stay, and both invariants hold afterwards -/
def Sent (groups : List (Nat × List Acct)) (V : View) (x : Acct) (rest : List Stanza) (V' : View) : Prop :=
  ∃ c' out k, V' = (V.popOut x rest).cstep x c' out k ∧
    c'.seen = (V.cl x).seen ∧ c'.seenSK = (V.cl x).seenSK ∧ c'.shown = (V.cl x).shown ∧ c'.peerSK = (V.cl x).peerSK ∧
    DV groups ((V.popOut x rest).cstep x c' out k) ∧ GV groups ((V.popOut x rest).cstep x c' out k)

theorem Sent.crypto {groups V x rest} {cons : List Stanza} {s s' : Sys} (hS : Sent groups V x rest (view s')) (hd : DeadOK s) (hcl : V.cl = (view s).cl)
    (hout : V.outb = (view s).outb) (hq : V.outb x = cons ++ rest) (hfl : s'.faulted = s.faulted) :
    DV groups (view s') ∧ GV groups (view s') ∧ DeadOK s' := by
  obtain ⟨c', out, k, hv, h1, h2, h3, h4, hdv, hgv⟩ := hS
  rw [hcl] at h1 h2 h3 h4
  rw [hout] at hq
  refine ⟨by rw [hv]; exact hdv, by rw [hv]; exact hgv, ?_⟩
  refine deadOK_of_cl (x := x) (c' := c') hd hq ?_ ?_ h1 h2 (fun id => Nat.le_of_eq (shownC_congr h3 id).symm)
    (fun p hp => by rw [hfl]; exact hp) h4
  · intro z
    have : (view s').cl z = upd V.cl x c' z := by rw [hv]; rfl
    rw [hcl] at this
    exact this
  · intro z
    have : (view s').outb z = upd V.outb x rest z := by rw [hv]; rfl
    rw [hout] at this
    exact this

/-- `x` is about to run a function of the send layer in the state `s1`, which is `V` with `cons` consumed and record `c1` -/
structure Ready (groups : List (Nat × List Acct)) (V : View) (x : Acct) (cons rest : List Stanza) (s1 : Sys) (c1 : Client) :
    Prop where
  dv : DV groups V
  gv : GV groups V
  ups : ∀ st ∈ V.inb x, UpShape st
  acc : x ∈ V.accounts
  src : CSrc groups V x cons rest c1
  view_eq : view s1 = (V.popOut x rest).cstep x c1 [] V.nextCtr

section
variable {groups : List (Nat × List Acct)} {V : View} {x : Acct} {cons rest : List Stanza} {s1 : Sys} {c1 : Client}

theorem Ready.acc1 (hr : Ready groups V x cons rest s1 c1) : x ∈ (view s1).accounts := by
  rw [hr.view_eq]; exact hr.acc

theorem Ready.client (hr : Ready groups V x cons rest s1 c1) : getClient s1 x = c1 := by
  have : (view s1).cl x = c1 := by rw [hr.view_eq]; exact View.cstep_cl_same _ _ _ _ _
  exact this

theorem Ready.sent (hr : Ready groups V x cons rest s1 c1) {s' : Sys} {c' : Client} {out : List Stanza} {k : Nat}
    (hv : view s' = (view s1).cstep x c' out k)
    (h1 : c'.seen = c1.seen) (h2 : c'.seenSK = c1.seenSK) (h3 : c'.shown = c1.shown) (h4 : c'.peerSK = c1.peerSK)
    (hdg : DV groups ((V.popOut x rest).cstep x c' out k) ∧ GV groups ((V.popOut x rest).cstep x c' out k)) :
    Sent groups V x rest (view s') :=
  ⟨c', out, k, by rw [hv, hr.view_eq, View.cstep_cstep, List.nil_append], h1.trans hr.src.same.seen, h2.trans hr.src.same.seenSK,
    h3.trans hr.src.same.shown, h4.trans hr.src.peerSK, hdg.1, hdg.2⟩

theorem Ready.contact (hr : Ready groups V x cons rest s1 c1) {n : Node} {b : Acct} (hnd : n.dest = .user b)
    (hse : (lookup c1.sessions b).isSome = true) : Sent groups V x rest (view (sendToContact s1 x c1 n b)) := by
  obtain ⟨ct, hct, hv⟩ := view_sendToContact s1 x c1 n b hr.acc1 hse
  exact hr.sent hv rfl rfl rfl rfl (hr.src.toContact hr.dv hr.gv hnd _ hct)

theorem Ready.query (hr : Ready groups V x cons rest s1 c1) (mk : Nat → Stanza) (k1 : Cont)
    (hst : ∀ id peer part im encs pl, mk c1.nextIq ≠ .msg id peer part im encs pl) (hiq : stanzaIq (mk c1.nextIq) = some c1.nextIq)
    (hc1 : ∀ n', k1 = Cont.groupInfo n' → ∃ g, n'.dest = .group g ∧ mk c1.nextIq = .getGroup c1.nextIq g)
    (hc2 : ∀ n' al aq, k1 = Cont.keysForGroup n' al aq → ∃ g, n'.dest = .group g ∧
      al = ((lookup groups g).getD []).filter (· != x) ∧ ∀ j ∈ al, (lookup c1.sessions j).isSome = true ∨ j ∈ aq)
    (hp : ∀ p q, k1 ≠ Cont.keysForPending p q) : Sent groups V x rest (view (sendIq s1 x c1 mk k1)) :=
  hr.sent (view_sendIq s1 x c1 mk k1 hr.acc1) rfl rfl rfl rfl (hr.src.toCont hr.dv hr.gv k1 _ _ hst hiq hc1 hc2 hp)

/-- if the own sender key is yet to be made, `need` covers the group and has sessions -/
theorem Ready.group (hr : Ready groups V x cons rest s1 c1) {n : Node} {g : Nat} (hnd : n.dest = .group g) (need : List Acct)
    (hcov : (lookup (V.cl x).ownSK g).isSome = false → ∀ y, y ∈ (lookup groups g).getD [] → y ≠ x →
      y ∈ need ∧ (lookup c1.sessions y).isSome = true) :
    Sent groups V x rest (view (sendToGroupWithSessions s1 x c1 n g need 0)) := by
  obtain ⟨sk, gen, hkey, hv⟩ := view_sgws_first s1 x c1 n g need hr.acc1
  obtain ⟨e1, _, e3⟩ := encryptEach_spec { c1 with ownSK := sk } { skdm := some (g, gen), content := none } need s1.nextCtr
  refine hr.sent hv rfl rfl rfl rfl (hr.src.toGroup hr.dv hr.gv hnd _ _ hr.ups hkey ?_ ?_)
  · intro e he
    obtain ⟨jc, hjc, rfl⟩ := List.mem_map.mp he
    obtain ⟨n', _, _, henc⟩ := e1 jc hjc
    exact ⟨jc.1, n', rfl, henc⟩
  · intro hno y hy hyx
    obtain ⟨h1, h2⟩ := hcov hno y hy hyx
    obtain ⟨jc, hjc, hj⟩ := e3 y h1 h2
    exact ⟨(some jc.1, jc.2), List.mem_map.mpr ⟨jc, hjc, rfl⟩, by rw [hj]⟩

theorem Ready.again (hr : Ready groups V x cons rest s1 c1) {n : Node} {g : Nat} {w : Acct} {cnt : Nat}
    (hnd : n.dest = .group g) (hc : 1 ≤ cnt) (hse : (lookup c1.sessions w).isSome = true)
    (hown : (lookup c1.ownSK g).isSome = true) :
    Sent groups V x rest (view (sendToGroupWithSessions s1 x c1 n g [w] cnt)) := by
  obtain ⟨sk, gen, ct, hkey, hct, hv⟩ := view_sgws_retry s1 x c1 n g w cnt hr.acc1 hc hse
  exact hr.sent hv rfl rfl rfl rfl (hr.src.toRetry hr.dv hr.gv hnd _ hct hkey hown)

theorem Ready.plaintext (hr : Ready groups V x cons rest s1 c1) (n : Node) :
    Sent groups V x rest (view (processPlaintext s1 x c1 n none)) :=
  processPlaintext_cases (P := fun s' => Sent groups V x rest (view s')) s1 x c1 n none
    (fun _ hnd hs => hr.contact hnd hs)
    (fun b _ _ => hr.query (fun iq => .getKeys iq [b]) (.keysForSend n) (fun _ _ _ _ _ _ e => nomatch e) rfl
      (fun _ e => nomatch e) (fun _ _ _ e => nomatch e) (fun _ _ e => nomatch e))
    (fun g hnd _ => hr.query (fun iq => .getGroup iq g) (.groupInfo n) (fun _ _ _ _ _ _ e => nomatch e) rfl
      (fun n' e => by cases e; exact ⟨g, hnd, rfl⟩) (fun _ _ _ e => nomatch e) (fun _ _ e => nomatch e))
    (fun g hnd hown _ => hr.group hnd [] (fun hno => by rw [← hr.src.same.ownSK, hown] at hno; cases hno))
    (fun _ _ _ _ _ e => nomatch e)

end

theorem appSend_crypto {accts : List Acct} {groups : List (Nat × List Acct)} {s : Sys} {a : Acct} {n : Node} (h : FInv accts groups s) (hall : Allowed s (.appSend a n) = true) :
    DV groups (view (step s (.appSend a n))) ∧ GV groups (view (step s (.appSend a n))) ∧ DeadOK (step s (.appSend a n)) := by
  have hA := h.ainv
  simp only [Allowed, Bool.and_eq_true, Bool.not_eq_true'] at hall
  have ha : a ∈ accts := (hA.reg a).mp hall.1.1
  have hstep := appSend_eq (a := a) (n := n) hA
  have hfl : (step s (.appSend a n)).faulted = s.faulted := by
    show (sendLayerSend { s with submitted := s.submitted ++ [(a, n)] } a n).faulted = _
    exact (outbound_eq_of_frame (f := fun s => sendLayerSend s a n) (fun s o fl => sendLayerSend_wo s o fl a n) _).2
  have hr : Ready groups ((view s).addSub (a, n)) a [] ((view s).outb a) { s with submitted := s.submitted ++ [(a, n)] }
      (getClient s a) := {
    dv := h.dv.addSub _
    gv := h.gv
    ups := fun st hst => (h.ups a st hst).1
    acc := h.acc ha
    src := CSrc.init rfl (fun _ hst => by cases hst) (iq_bounds hA a).1 (iq_bounds hA a).2
    view_eq := by
      show (view s).addSub (a, n) = (((view s).addSub (a, n)).popOut a (((view s).addSub (a, n)).outb a)).cstep a _ [] _
      rw [View.popOut_self]
      exact (View.cstep_id _ a).symm }
  have hS := hr.plaintext n
  rw [← hstep] at hS
  exact hS.crypto (cons := []) h.dead rfl rfl rfl hfl

end Yow.E2E
