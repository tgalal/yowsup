/-
  Decryptability (needed for the runs with server faults and for fault-free runs of any length).  Every pairwise ciphertext on its way names a session its recipient
  can open (`known`), every sender-key ciphertext and distribution names the sender's own key for the group: the
  invariant `DV` over the functional view (E2ETokBase), kept by a client step and a server step under local conditions.
-/
import YowsupVerif.Lemmas.E2ETokHandleEnc
import YowsupVerif.Lemmas.E2ETokInv
namespace Yow.E2E

/-- `c` can open ciphertexts of session `σ` with `y` -/
def known (c : Client) (y : Acct) (σ : Nat) : Prop :=
  ∃ se, lookup c.sessions y = some se ∧ (se.cur = σ ∨ σ ∈ se.archived)

theorem known_of_sessions {c c' : Client} (h : c'.sessions = c.sessions) {j : Acct} {σ : Nat} (hk : known c j σ) : known c' j σ := by
  unfold known at *; rw [h]; exact hk

theorem known_cur {c : Client} {j : Acct} {se : Sess} (h : lookup c.sessions j = some se) : known c j se.cur :=
  ⟨se, h, Or.inl rfl⟩

theorem known_createSession (c : Client) (j : Acct) (sid : Nat) (j' : Acct) (σ : Nat) (h : known c j' σ) :
    known (createSession c j sid) j' σ := by
  obtain ⟨se, h1, h2⟩ := h
  unfold createSession known
  simp only [lookup_insert]
  by_cases e : j' = j
  · subst e
    rw [if_pos rfl]
    refine ⟨_, rfl, Or.inr ?_⟩
    simp only [h1]
    rcases h2 with h2 | h2
    · exact h2 ▸ List.mem_cons_self
    · exact List.mem_cons_of_mem _ h2
  · rw [if_neg e]
    exact ⟨se, h1, h2⟩

theorem createSession_old (c : Client) (j : Acct) (sid : Nat) (j' : Acct) (se : Sess)
    (h : lookup (createSession c j sid).sessions j' = some se) (hp : se.pendingPre = false) : lookup c.sessions j' = some se := by
  unfold createSession at h
  simp only [lookup_insert] at h
  by_cases e : j' = j
  · rw [if_pos e] at h; cases h; cases hp
  · rw [if_neg e] at h; exact h

/-- `processKeys`: peers' sender keys stay, what could be opened still can, and the new sessions still wait for the
    peer's first message -/
theorem Keyed.crypto {c c1 : Client} {l : List Acct} (h : Keyed c l c1) :
    c1.peerSK = c.peerSK ∧ (∀ j σ, known c j σ → known c1 j σ) ∧
    (∀ j se, lookup c1.sessions j = some se → se.pendingPre = false → lookup c.sessions j = some se) := by
  induction h with
  | nil c => exact ⟨rfl, fun _ _ h => h, fun _ _ h _ => h⟩
  | @cons c c1 j l sid _ ih =>
    obtain ⟨h1, h2, h3⟩ := ih
    exact ⟨h1, fun j' σ hk => h2 j' σ (known_createSession c j sid j' σ hk),
      fun j' se hs hp => createSession_old c j sid j' se (h3 j' se hs hp) hp⟩

def destGroup : Dest → Option Nat
  | .group g => some g
  | .user _ => none

/-- whom a ciphertext in a stanza on its way to the server is for -/
def IsFor (dest : Dest) (part : Option Acct) (tag : Option Acct) (y : Acct) : Prop :=
  match dest, part with
  | .user b, _ => y = b
  | .group _, some p => y = p
  | .group _, none => tag = some y

/-- a ciphertext made by the client with record `cx`, in a stanza for group `grp` -/
structure CtOK (cx : Client) (grp : Option Nat) (e : Ct) : Prop where
  uncorrupt : e.corrupt = false
  sk : e.kind = .skmsg → ∃ g, grp = some g ∧ lookup cx.ownSK g = some e.sess
  skdm : ∀ g gen, e.plain.skdm = some (g, gen) → grp = some g ∧ lookup cx.ownSK g = some gen
  dist : e.kind ≠ .skmsg → e.plain.content = none → e.plain.skdm.isSome = true

def PairOK (V : View) (x y : Acct) (e : Ct) : Prop :=
  e.kind ≠ .skmsg → known (V.cl x) y e.sess ∧ (e.kind = .msg → known (V.cl y) x e.sess)

def UpDec (V : View) (x : Acct) : Stanza → Prop
  | .msg _ dest part _ encs _ =>
    ∀ e ∈ encs, CtOK (V.cl x) (destGroup dest) e.2 ∧ ∀ y, IsFor dest part e.1 y → PairOK V x y e.2
  | _ => True

def DownDec (V : View) (y : Acct) : Stanza → Prop
  | .msg id peer part im encs pl =>
    DownShape (.msg id peer part im encs pl) ∧
    ∀ e ∈ encs, CtOK (V.cl (whoOf peer part)) (destGroup peer) e.2 ∧ PairOK V (whoOf peer part) y e.2
  | _ => True

/-- `p0`: nothing is parked; `d2`: a session past its first message is known to the peer; `g2`: a stored sender key is the
    sender's own; `c1`, `c2`: a pending group query is answered with the group's members, and the key query that follows
    covers all of them -/
structure DV (groups : List (Nat × List Acct)) (V : View) : Prop where
  p0 : ∀ r, (V.cl r).pendingIn = [] ∧ ∀ e ∈ (V.cl r).iqReg, ∀ p q, e.2 ≠ Cont.keysForPending p q
  d2 : ∀ x y se, lookup (V.cl x).sessions y = some se → se.pendingPre = false → known (V.cl y) x se.cur
  up : ∀ x st, st ∈ V.inb x → UpDec V x st
  down : ∀ y st, st ∈ V.outb y → DownDec V y st
  g2 : ∀ y g x gen, lookup (V.cl y).peerSK (g, x) = some gen → lookup (V.cl x).ownSK g = some gen
  c1 : ∀ a e, e ∈ (V.cl a).iqReg → ∀ n, e.2 = Cont.groupInfo n → ∃ g, n.dest = .group g ∧
    (∀ st ∈ V.inb a, stanzaIq st = some e.1 → st = .getGroup e.1 g) ∧
    (∀ st ∈ V.outb a, stanzaIq st = some e.1 → st = .groupInfo e.1 g ((lookup groups g).getD []))
  c2 : ∀ a e, e ∈ (V.cl a).iqReg → ∀ n all asked, e.2 = Cont.keysForGroup n all asked → ∃ g, n.dest = .group g ∧
    all = ((lookup groups g).getD []).filter (· != a) ∧
    ∀ j ∈ all, (lookup (V.cl a).sessions j).isSome = true ∨ j ∈ asked

/-- sessions and own sender keys only grow -/
def CMonoC (c c' : Client) : Prop :=
  (∀ j σ, known c j σ → known c' j σ) ∧ (∀ g gen, lookup c.ownSK g = some gen → lookup c'.ownSK g = some gen)

theorem CMonoC.rfl' (c : Client) : CMonoC c c := ⟨fun _ _ h => h, fun _ _ h => h⟩

def CMono (V V' : View) : Prop := ∀ z, CMonoC (V.cl z) (V'.cl z)

theorem CtOK.mono {c c' : Client} (h : CMonoC c c') {grp : Option Nat} {e : Ct} (he : CtOK c grp e) : CtOK c' grp e where
  uncorrupt := he.uncorrupt
  sk hk := by obtain ⟨g, h1, h2⟩ := he.sk hk; exact ⟨g, h1, h.2 g _ h2⟩
  skdm g gen hs := ⟨(he.skdm g gen hs).1, h.2 g gen (he.skdm g gen hs).2⟩
  dist := he.dist

theorem PairOK.mono {V V' : View} (h : CMono V V') {x y : Acct} {e : Ct} (he : PairOK V x y e) : PairOK V' x y e := by
  intro hk
  obtain ⟨h1, h2⟩ := he hk
  exact ⟨(h x).1 y _ h1, fun hm => (h y).1 x _ (h2 hm)⟩

theorem UpDec.mono {V V' : View} (h : CMono V V') {x : Acct} {st : Stanza} (hs : UpDec V x st) : UpDec V' x st := by
  cases st with
  | msg id dest part im encs pl =>
    intro e he
    exact ⟨(hs e he).1.mono (h x), fun y hy => ((hs e he).2 y hy).mono h⟩
  | _ => trivial

theorem DownDec.mono {V V' : View} (h : CMono V V') {y : Acct} {st : Stanza} (hs : DownDec V y st) : DownDec V' y st := by
  cases st with
  | msg id peer part im encs pl =>
    refine ⟨hs.1, ?_⟩
    intro e he
    exact ⟨(hs.2 e he).1.mono (h _), (hs.2 e he).2.mono h⟩
  | _ => trivial

structure DStepOK (groups : List (Nat × List Acct)) (V : View) (x : Acct) (cons rest : List Stanza) (c' : Client)
    (out : List Stanza) (k : Nat) : Prop where
  hq : V.outb x = cons ++ rest
  mono : CMonoC (V.cl x) c'
  d2 : ∀ j se, lookup c'.sessions j = some se → se.pendingPre = false →
    lookup (V.cl x).sessions j = some se ∨ (j ≠ x ∧ known (V.cl j) x se.cur)
  g2 : ∀ g z gen, lookup c'.peerSK (g, z) = some gen →
    lookup (V.cl x).peerSK (g, z) = some gen ∨ (z ≠ x ∧ lookup (V.cl z).ownSK g = some gen)
  p0 : c'.pendingIn = [] ∧ ∀ e ∈ c'.iqReg, ∀ p q, e.2 ≠ Cont.keysForPending p q
  outOK : ∀ st ∈ out, UpDec ((V.popOut x rest).cstep x c' out k) x st
  c1 : ∀ e ∈ c'.iqReg, ∀ n, e.2 = Cont.groupInfo n → ∃ g, n.dest = .group g ∧
    (∀ st ∈ V.inb x ++ out, stanzaIq st = some e.1 → st = .getGroup e.1 g) ∧
    (∀ st ∈ rest, stanzaIq st = some e.1 → st = .groupInfo e.1 g ((lookup groups g).getD []))
  c2 : ∀ e ∈ c'.iqReg, ∀ n all asked, e.2 = Cont.keysForGroup n all asked → ∃ g, n.dest = .group g ∧
    all = ((lookup groups g).getD []).filter (· != x) ∧ ∀ j ∈ all, (lookup c'.sessions j).isSome = true ∨ j ∈ asked

theorem DV.client_step {groups : List (Nat × List Acct)} {V : View} {x : Acct} {cons rest : List Stanza} {c' : Client}
    {out : List Stanza} {k : Nat} (h : DV groups V) (hs : DStepOK groups V x cons rest c' out k) :
    DV groups ((V.popOut x rest).cstep x c' out k) := by
  obtain ⟨hclx, hinx, houtx⟩ := V.step_same x rest c' out k
  have hcl := fun r (hr : r ≠ x) => (V.step_other x rest c' out k hr).1
  have hin := fun r (hr : r ≠ x) => (V.step_other x rest c' out k hr).2.1
  have hout := fun r (hr : r ≠ x) => (V.step_other x rest c' out k hr).2.2
  -- what is still queued for `r` was queued before
  have hsub : ∀ r st, st ∈ ((V.popOut x rest).cstep x c' out k).outb r → st ∈ V.outb r := by
    intro r st hst
    by_cases hr : r = x
    · subst hr; rw [houtx] at hst; rw [hs.hq]; exact List.mem_append_right _ hst
    · rw [hout r hr] at hst; exact hst
  have hmono : CMono V ((V.popOut x rest).cstep x c' out k) := by
    intro z
    by_cases hz : z = x
    · subst hz; rw [hclx]; exact hs.mono
    · rw [hcl z hz]; exact CMonoC.rfl' _
  exact {
    p0 := by
      intro r
      by_cases hr : r = x
      · subst hr; rw [hclx]; exact hs.p0
      · rw [hcl r hr]; exact h.p0 r
    d2 := by
      intro a y se hl hp
      by_cases ha : a = x
      · subst ha
        rw [hclx] at hl
        rcases hs.d2 y se hl hp with h1 | ⟨h1, h2⟩
        · exact (hmono y).1 a _ (h.d2 a y se h1 hp)
        · exact (hmono y).1 a _ h2
      · rw [hcl a ha] at hl
        exact (hmono y).1 a _ (h.d2 a y se hl hp)
    up := by
      intro a st hst
      by_cases ha : a = x
      · subst ha
        rw [hinx] at hst
        rcases List.mem_append.mp hst with h1 | h1
        · exact (h.up a st h1).mono hmono
        · exact hs.outOK st h1
      · rw [hin a ha] at hst
        exact (h.up a st hst).mono hmono
    down := fun y st hst => (h.down y st (hsub y st hst)).mono hmono
    g2 := by
      intro y g z gen hl
      by_cases hy : y = x
      · subst hy
        rw [hclx] at hl
        rcases hs.g2 g z gen hl with h1 | ⟨h1, h2⟩
        · exact (hmono z).2 g gen (h.g2 y g z gen h1)
        · exact (hmono z).2 g gen h2
      · rw [hcl y hy] at hl
        exact (hmono z).2 g gen (h.g2 y g z gen hl)
    c1 := by
      intro a e he n hn
      by_cases ha : a = x
      · subst ha
        rw [hclx] at he
        rw [hinx, houtx]
        exact hs.c1 e he n hn
      · rw [hcl a ha] at he
        rw [hin a ha, hout a ha]
        exact h.c1 a e he n hn
    c2 := by
      intro a e he n all asked hn
      by_cases ha : a = x
      · subst ha
        rw [hclx] at he ⊢
        exact hs.c2 e he n all asked hn
      · rw [hcl a ha] at he ⊢
        exact h.c2 a e he n all asked hn }

structure DSrvOK (groups : List (Nat × List Acct)) (V : View) (x : Acct) (hd : Stanza) (rest : List Stanza)
    (add : Acct → List Stanza) : Prop where
  hq : V.inb x = hd :: rest
  down : ∀ b st, st ∈ add b → DownDec V b st
  c1 : ∀ b st, st ∈ add b → ∀ e ∈ (V.cl b).iqReg, ∀ n, e.2 = Cont.groupInfo n → stanzaIq st = some e.1 →
    ∃ g, n.dest = .group g ∧ st = .groupInfo e.1 g ((lookup groups g).getD [])

theorem DV.server_step {groups : List (Nat × List Acct)} {V : View} {x : Acct} {hd : Stanza} {rest : List Stanza}
    {add : Acct → List Stanza} (h : DV groups V) (hs : DSrvOK groups V x hd rest add) :
    DV groups ((V.popIn x rest).pushes add) := by
  -- the clients are untouched; what is still on a connection was there before
  have hsub : ∀ a st, st ∈ ((V.popIn x rest).pushes add).inb a → st ∈ V.inb a := by
    intro a st hst
    have hst : st ∈ if a = x then rest else V.inb a := hst
    by_cases ha : a = x
    · subst ha; rw [if_pos rfl] at hst; rw [hs.hq]; exact List.mem_cons_of_mem _ hst
    · rw [if_neg ha] at hst; exact hst
  exact {
    p0 := h.p0
    d2 := h.d2
    up := fun a st hst => h.up a st (hsub a st hst)
    down := by
      intro y st hst
      rcases List.mem_append.mp (show st ∈ V.outb y ++ add y from hst) with h1 | h1
      · exact h.down y st h1
      · exact hs.down y st h1
    g2 := h.g2
    c1 := by
      intro a e he n hn
      obtain ⟨g, h1, h2, h3⟩ := h.c1 a e he n hn
      refine ⟨g, h1, fun st hst hiq => h2 st (hsub a st hst) hiq, ?_⟩
      intro st hst hiq
      rcases List.mem_append.mp (show st ∈ V.outb a ++ add a from hst) with h4 | h4
      · exact h3 st h4 hiq
      · obtain ⟨g', h5, h6⟩ := hs.c1 a st h4 e he n hn hiq
        rw [h1] at h5
        cases h5
        exact h6
    c2 := h.c2 }

end Yow.E2E
