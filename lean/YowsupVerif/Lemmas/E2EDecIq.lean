/-
  The answer to a key or group query keeps decryptability: the continuation is taken out, sessions are made, and
  `onIqResult_cases` names the send that is resumed.
-/
import YowsupVerif.Lemmas.E2EDecAppSend
namespace Yow.E2E

section
variable {groups : List (Nat × List Acct)} {V : View} {x : Acct} {cons rest : List Stanza} {s1 : Sys} {c1 : Client}

theorem Ready.eraseIq (hr : Ready groups V x cons rest s1 c1) (iq : Nat) :
    Ready groups V x cons rest (setClient s1 x { c1 with iqReg := erase c1.iqReg iq }) { c1 with iqReg := erase c1.iqReg iq } :=
  { hr with
    src := hr.src.trans (fun _ _ h => h) (fun _ _ h _ => h) rfl (SameBut.eraseIq c1 iq) (fun _ he => mem_erase he)
    view_eq := by rw [view_setClient _ _ _ hr.acc1, hr.view_eq, View.cstep_cstep]; rfl }

theorem Ready.keys (hr : Ready groups V x cons rest s1 c1) {askd got : List Acct} (hsub : ∀ j, j ∈ askd → j ∈ got) :
    ∃ s2, processKeys s1 x askd got = (s2, askd) ∧ Ready groups V x cons rest s2 (getClient s2 x) ∧
      ∀ j, j ∈ askd → (lookup (getClient s2 x).sessions j).isSome = true := by
  obtain ⟨s2, c2, hpk, hv, hk⟩ := processKeys_keyed x got askd s1 hr.acc1 hsub
  rw [hr.client] at hk
  obtain ⟨q1, q2, q3, _⟩ := hk.same
  obtain ⟨q5, q6, q7⟩ := hk.crypto
  have hr2 : Ready groups V x cons rest s2 c2 := { hr with
    src := hr.src.trans q6 q7 q5 q1 (fun e he => q2 ▸ he)
    view_eq := by rw [hv, hr.view_eq, View.cstep_cstep]; rfl }
  cases hr2.client
  exact ⟨s2, hpk, hr2, q3⟩

theorem Ready.replay (hr : Ready groups V x cons rest s1 c1) {n : Node} {w : Acct} {cnt : Nat} (hc : 1 ≤ cnt)
    (hsess : (lookup c1.sessions w).isSome = true) (hw : ∀ b, n.dest = .user b → w = b)
    (hown : ∀ g, n.dest = .group g → (lookup c1.ownSK g).isSome = true) :
    Sent groups V x rest (view (processPlaintext s1 x c1 n (some (w, cnt)))) :=
  processPlaintext_cases (P := fun s' => Sent groups V x rest (view s')) s1 x c1 n (some (w, cnt))
    (fun _ hnd hs => hr.contact hnd hs)
    (fun b hnd hs => by rw [← hw b hnd, hsess] at hs; cases hs)
    (fun g hnd hno => by have := hown g hnd; rw [hno] at this; cases this)
    (fun _ _ _ e => nomatch e)
    (fun g _ _ hnd ho e => by cases e; exact hr.again hnd hc hsess ho)

theorem Ready.ensure (hr : Ready groups V x cons rest s1 c1) {n : Node} {g : Nat} (hnd : n.dest = .group g) :
    Sent groups V x rest (view (ensureSessionsAndSend s1 x c1 n g (((lookup groups g).getD []).filter (· != x)))) := by
  refine ensureSessionsAndSend_cases (P := fun s' => Sent groups V x rest (view s')) s1 x c1 n g _ (fun hall => ?_) ?_
  · refine hr.group hnd _ (fun _ y hy hyx => ?_)
    have hyn : y ∈ ((lookup groups g).getD []).filter (· != x) := List.mem_filter.mpr ⟨hy, by simpa using hyx⟩
    exact ⟨hyn, hall y hyn⟩
  · refine hr.query _ (.keysForGroup n _ _) (fun _ _ _ _ _ _ e => nomatch e) rfl (fun _ e => nomatch e) ?_
      (fun _ _ e => nomatch e)
    intro n' al aq e
    cases e
    refine ⟨g, hnd, rfl, fun j hj => ?_⟩
    cases hl : lookup c1.sessions j with
    | some se => exact Or.inl rfl
    | none => exact Or.inr (List.mem_filter.mpr ⟨hj, by simp [hl]⟩)

end

theorem onIqResult_crypto {accts : List Acct} {groups : List (Nat × List Acct)} {s : Sys} {a : Acct} {hd : Stanza} {rest : List Stanza} {iq : Nat} {got ms : List Acct} {k0 : Cont}
    (h : FInv accts groups s) (ha : a ∈ accts)
    (hq : queueOf s.outbound a = hd :: rest) (hnm : ∀ id peer part im encs pl, hd ≠ .msg id peer part im encs pl)
    (hk0 : lookup (getClient s a).iqReg iq = some k0) (hgot : ∀ j, j ∈ asked k0 → j ∈ got)
    (hms : ∀ n, k0 = Cont.groupInfo n → ∃ g, n.dest = .group g ∧ ms = (lookup groups g).getD []) :
    DV groups (view (onIqResult { s with outbound := insert s.outbound a rest } a iq got ms)) ∧
    GV groups (view (onIqResult { s with outbound := insert s.outbound a rest } a iq got ms)) ∧
    DeadOK (onIqResult { s with outbound := insert s.outbound a rest } a iq got ms) := by
  have hA := h.ainv
  have hmem0 : (iq, k0) ∈ (getClient s a).iqReg := lookup_mem hk0
  have hcont : ContOK accts groups s.submitted a k0 := (hA.client a).conts iq k0 hmem0
  have hshape : ContShape k0 := (h.tv.clients a).conts _ hmem0
  have hfl : (onIqResult { s with outbound := insert s.outbound a rest } a iq got ms).faulted = s.faulted :=
    (outbound_eq_of_frame (f := fun s => onIqResult s a iq got ms) (fun s o fl => onIqResult_wo s o fl a iq got ms) _).2
  have hr0 : Ready groups (view s) a [hd] rest { s with outbound := insert s.outbound a rest } (getClient s a) := {
    dv := h.dv
    gv := h.gv
    ups := fun st hst => (h.ups a st hst).1
    acc := h.acc ha
    src := CSrc.init hq (List.forall_mem_singleton.mpr hnm) (iq_bounds hA a).1 (iq_bounds hA a).2
    view_eq := by rw [view_setOutbound]; exact (View.cstep_id _ a).symm }
  obtain ⟨s2, hpk, hr2, hs2⟩ := (hr0.eraseIq iq).keys hgot
  have hS : Sent groups (view s) a rest (view (onIqResult { s with outbound := insert s.outbound a rest } a iq got ms)) := by
    refine onIqResult_cases (P := fun s' => Sent groups (view s) a rest (view s')) hk0 hpk hshape
      (fun p q e => (h.dv.p0 a).2 _ hmem0 p q e) ?_ ?_ ?_ ?_
    · intro m b hk hmd
      subst hk
      exact hr2.contact hmd (hs2 b (by simp [asked, hmd]))
    · intro m w cnt hk
      subst hk
      refine hr2.replay hshape (hs2 w (List.mem_singleton_self w)) ?_ ?_
      · intro b hmd
        simpa [intendedG, hmd] using hcont.2
      · intro g hmd
        rw [hr2.src.same.ownSK]
        exact retry_has_ownSK (V := view (flat s)) h.tv hmem0 hcont.1 hcont.2 hmd
    · intro m g hk hmd
      subst hk
      obtain ⟨g', hmd', hmsg⟩ := hms m rfl
      cases hmd.symm.trans hmd'
      subst hmsg
      exact hr2.ensure hmd
    · intro m g all askd hk hmd
      subst hk
      obtain ⟨g', hmd', hall, hsess⟩ := h.dv.c2 a _ hmem0 m all askd rfl
      cases hmd.symm.trans hmd'
      refine hr2.group hmd all (fun _ y hy hyx => ?_)
      have hyn : y ∈ all := by rw [hall]; exact List.mem_filter.mpr ⟨hy, by simpa using hyx⟩
      refine ⟨hyn, ?_⟩
      rcases hsess y hyn with h1 | h1
      · exact hr2.src.smono y h1
      · exact hs2 y h1
  exact hS.crypto (cons := [hd]) h.dead rfl rfl hq hfl

end Yow.E2E
