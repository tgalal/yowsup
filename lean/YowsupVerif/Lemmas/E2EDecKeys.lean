/-
  Sender keys arrive before they are needed: the invariant `GV` beside `DV` (E2EDecInv).  For a sender `a` with an own
  key for group `g` and a member `y`: `y` has `a`'s key, or its distribution travels ahead of every stanza that needs it
  (queues are FIFO).
-/
import YowsupVerif.Lemmas.E2EDecInv
namespace Yow.E2E

def isSk (e : Option Acct × Ct) : Bool := e.2.kind == .skmsg

/-- a stanza queued for a member that carries `a`'s sender key for `g` along with the message -/
def isDistDown (a : Acct) (g : Nat) : Stanza → Bool
  | .msg _ (.group g') (some a') _ encs _ => g' == g && a' == a && encs.any (fun e => !isSk e) && encs.any isSk
  | _ => false
/-- a stanza queued for a member that can only be opened with `a`'s sender key for `g` -/
def needsDown (a : Acct) (g : Nat) : Stanza → Bool
  | .msg _ (.group g') (some a') _ encs _ => g' == g && a' == a && encs.all isSk && encs.any isSk
  | _ => false
def isDistUp (g : Nat) (y : Acct) : Stanza → Bool
  | .msg _ (.group g') none _ encs _ => g' == g && encs.any (fun e => e.1 == some y)
  | _ => false
def needsUp (g : Nat) (y : Acct) : Stanza → Bool
  | .msg _ (.group g') none _ encs _ => g' == g && encs.all (fun e => e.1 != some y)
  | _ => false

def cls (d n : Stanza → Bool) (st : Stanza) : Option Bool := if d st then some true else if n st then some false else none

/-- the first stanza of the queue that matters: a distribution (`true`) or one that needs the key (`false`) -/
def scan (d n : Stanza → Bool) : List Stanza → Option Bool
  | [] => none
  | st :: l => match cls d n st with
    | some b => some b
    | none => scan d n l

theorem scan_append (d n : Stanza → Bool) (l m : List Stanza) :
    scan d n (l ++ m) = match scan d n l with | some b => some b | none => scan d n m := by
  induction l with
  | nil => rfl
  | cons st l ih =>
    simp only [List.cons_append, scan]
    cases cls d n st with
    | some b => rfl
    | none => exact ih

theorem scan_plain {d n : Stanza → Bool} {l : List Stanza} (h : ∀ st ∈ l, cls d n st = none) : scan d n l = none := by
  induction l with
  | nil => rfl
  | cons st l ih =>
    simp only [scan, h st (by simp)]
    exact ih (fun st' hst' => h st' (List.mem_cons_of_mem _ hst'))

theorem scan_singleton (d n : Stanza → Bool) (st : Stanza) : scan d n [st] = cls d n st := by
  simp only [scan]
  cases cls d n st <;> rfl

/-- `y` has, or will have in time, the sender key of `a` for `g` -/
def avail (V : View) (a : Acct) (g : Nat) (y : Acct) : Prop :=
  (lookup (V.cl y).peerSK (g, a)).isSome = true ∨
  (match scan (isDistDown a g) (needsDown a g) (V.outb y) with
   | some b => b = true
   | none => scan (isDistUp g y) (needsUp g y) (V.inb a) = some true)

def GV (groups : List (Nat × List Acct)) (V : View) : Prop :=
  ∀ a g, (lookup (V.cl a).ownSK g).isSome = true → ∀ y, y ∈ (lookup groups g).getD [] → y ≠ a → avail V a g y

def PlainDown (st : Stanza) : Prop := ∀ a g, cls (isDistDown a g) (needsDown a g) st = none
def PlainUpK (st : Stanza) : Prop := ∀ g y, cls (isDistUp g y) (needsUp g y) st = none

theorem PlainDown.of_not_group {st : Stanza} (h : ∀ id g a im encs pl, st ≠ .msg id (.group g) (some a) im encs pl) : PlainDown st := by
  intro a g
  unfold cls isDistDown needsDown
  cases st with
  | msg id peer part im encs pl =>
    cases peer with
    | user b => rfl
    | group g' =>
      cases part with
      | none => rfl
      | some a' => exact absurd rfl (h id g' a' im encs pl)
  | _ => rfl

theorem PlainUpK.of_not_group {st : Stanza} (h : ∀ id g im encs pl, st ≠ .msg id (.group g) none im encs pl) : PlainUpK st := by
  intro g y
  unfold cls isDistUp needsUp
  cases st with
  | msg id peer part im encs pl =>
    cases peer with
    | user b => rfl
    | group g' =>
      cases part with
      | some a' => rfl
      | none => exact absurd rfl (h id g' im encs pl)
  | _ => rfl

theorem cls_some_true {d n : Stanza → Bool} {st : Stanza} (h : cls d n st = some true) : d st = true := by
  unfold cls at h
  split at h
  · assumption
  · split at h <;> cases h

section
variable {groups : List (Nat × List Acct)} {V : View} {x : Acct}

/-- the member learns keys, the sender's connection grows at its end: a distribution under way stays ahead -/
theorem avail_mono {V' : View} {a : Acct} {g : Nat} {y : Acct} {out : List Stanza}
    (hk : (lookup (V.cl y).peerSK (g, a)).isSome = true → (lookup (V'.cl y).peerSK (g, a)).isSome = true)
    (ho : V'.outb y = V.outb y) (hi : V'.inb a = V.inb a ++ out) (h : avail V a g y) : avail V' a g y := by
  unfold avail at h ⊢
  rw [ho, hi, scan_append]
  refine h.imp hk ?_
  cases scan (isDistDown a g) (needsDown a g) (V.outb y) with
  | some b => exact id
  | none => intro h1; dsimp only at h1 ⊢; rw [h1]

/-- a step of client `x` that makes no own sender key: the sender side is `avail_mono`, the receiver side is the caller's -/
theorem GV.step {q : List Stanza} {c' : Client} {out : List Stanza} {k : Nat} (h : GV groups V)
    (hown : ∀ g, (lookup c'.ownSK g).isSome = true → (lookup (V.cl x).ownSK g).isSome = true)
    (hrecv : ∀ a g, a ≠ x → avail V a g x → avail ((V.popOut x q).cstep x c' out k) a g x) :
    GV groups ((V.popOut x q).cstep x c' out k) := by
  intro a g hown' y hy hya
  obtain ⟨hclx, hinx, _⟩ := V.step_same x q c' out k
  by_cases hyx : y = x
  · subst hyx
    have hay : a ≠ y := fun e => hya e.symm
    rw [(V.step_other y q c' out k hay).1] at hown'
    exact hrecv a g hay (h a g hown' y hy hya)
  · obtain ⟨hcly, _, houty⟩ := V.step_other x q c' out k hyx
    by_cases hax : a = x
    · subst hax
      rw [hclx] at hown'
      exact avail_mono (by rw [hcly]; exact id) houty hinx (h a g (hown g hown') y hy hya)
    · rw [(V.step_other x q c' out k hax).1] at hown'
      exact avail_mono (out := []) (by rw [hcly]; exact id) houty
        (by rw [(V.step_other x q c' out k hax).2.1, List.append_nil]) (h a g hown' y hy hya)

theorem avail_self {q : List Stanza} {c' : Client} {out : List Stanza} {k : Nat} {a : Acct} {g : Nat} (ha : a ≠ x) :
    avail ((V.popOut x q).cstep x c' out k) a g x ↔
      ((lookup c'.peerSK (g, a)).isSome = true ∨
        (match scan (isDistDown a g) (needsDown a g) q with
         | some b => b = true
         | none => scan (isDistUp g x) (needsUp g x) (V.inb a) = some true)) := by
  obtain ⟨h1, _, h3⟩ := V.step_same x q c' out k
  unfold avail
  rw [h1, h3, (V.step_other x q c' out k ha).2.1]

theorem GV.consume_plain {cons rest : List Stanza} {c' : Client} {out : List Stanza} {k : Nat}
    (h : GV groups V) (hq : V.outb x = cons ++ rest) (hcons : ∀ st ∈ cons, PlainDown st)
    (hpk : ∀ key, (lookup (V.cl x).peerSK key).isSome = true → (lookup c'.peerSK key).isSome = true)
    (hown : ∀ g, (lookup c'.ownSK g).isSome = true → (lookup (V.cl x).ownSK g).isSome = true) :
    GV groups ((V.popOut x rest).cstep x c' out k) := by
  refine h.step hown (fun a g ha h0 => (avail_self ha).mpr ?_)
  unfold avail at h0
  rw [hq, scan_append, scan_plain (fun st hst => hcons st hst a g)] at h0
  exact h0.imp_left (hpk _)

theorem GV.client_plain {cons rest : List Stanza} {c' : Client} {out : List Stanza} {k : Nat}
    (h : GV groups V) (hq : V.outb x = cons ++ rest) (hcons : ∀ st ∈ cons, PlainDown st) (_hout : ∀ st ∈ out, PlainUpK st)
    (hpk : ∀ key, (lookup (V.cl x).peerSK key).isSome = true → (lookup c'.peerSK key).isSome = true)
    (hown : ∀ g, (lookup c'.ownSK g).isSome = true → (lookup (V.cl x).ownSK g).isSome = true) :
    GV groups ((V.popOut x rest).cstep x c' out k) := h.consume_plain hq hcons hpk hown

theorem GV.first_send {c' : Client} {st : Stanza} {k : Nat} {g0 : Nat}
    (h : GV groups V)
    (hpk : c'.peerSK = (V.cl x).peerSK)
    (hown : ∀ g, (lookup c'.ownSK g).isSome = true → (lookup (V.cl x).ownSK g).isSome = true ∨ g = g0)
    (hst : ∀ y, y ∈ (lookup groups g0).getD [] → y ≠ x → cls (isDistUp g0 y) (needsUp g0 y) st = some true)
    (_hother : ∀ g y, g ≠ g0 → cls (isDistUp g y) (needsUp g y) st = none)
    (_hnew : (lookup (V.cl x).ownSK g0).isSome = false)
    (hin : ∀ st' ∈ V.inb x, ∀ y, cls (isDistUp g0 y) (needsUp g0 y) st' = none)
    (hout : ∀ y, ∀ st' ∈ V.outb y, cls (isDistDown x g0) (needsDown x g0) st' = none) :
    GV groups (V.cstep x c' [st] k) := by
  intro a g hown' y hy hya
  have hclx : (V.cstep x c' [st] k).cl x = c' := if_pos rfl
  have hcl : ∀ r, r ≠ x → (V.cstep x c' [st] k).cl r = V.cl r := fun r hr => if_neg hr
  have hinx : (V.cstep x c' [st] k).inb x = V.inb x ++ [st] := if_pos rfl
  by_cases ha : a = x
  · subst ha
    rw [hclx] at hown'
    rcases hown g hown' with h1 | rfl
    · exact avail_mono (V := V) (by rw [hcl y hya]; exact id) rfl hinx (h a g h1 y hy hya)
    · -- the new key: nothing about it is queued anywhere yet, and `st` distributes it
      refine Or.inr ?_
      show (match scan (isDistDown a g) (needsDown a g) (V.outb y) with
        | some b => b = true
        | none => scan (isDistUp g y) (needsUp g y) ((V.cstep a c' [st] k).inb a) = some true)
      rw [scan_plain (hout y), hinx, scan_append, scan_plain (fun st' hst' => hin st' hst' y), scan_singleton, hst y hy hya]
  · rw [hcl a ha] at hown'
    refine avail_mono (V := V) (out := []) ?_ rfl (by rw [List.append_nil]; exact if_neg ha) (h a g hown' y hy hya)
    by_cases hyx : y = x
    · subst hyx; rw [hclx, hpk]; exact id
    · rw [hcl y hyx]; exact id

theorem GV.later_send {cons rest : List Stanza} {c' : Client} {st : Stanza} {k : Nat}
    (h : GV groups V) (hq : V.outb x = cons ++ rest) (hcons : ∀ st' ∈ cons, PlainDown st')
    (hpk : ∀ key, (lookup (V.cl x).peerSK key).isSome = true → (lookup c'.peerSK key).isSome = true)
    (hown : ∀ g, (lookup c'.ownSK g).isSome = true → (lookup (V.cl x).ownSK g).isSome = true) :
    GV groups ((V.popOut x rest).cstep x c' [st] k) := h.consume_plain hq hcons hpk hown

theorem GV.deliver {y : Acct} {hd : Stanza} {rest : List Stanza} {c' : Client} {out : List Stanza} {k : Nat} (keep : Bool)
    (h : GV groups V) (hq : V.outb y = hd :: rest) (hout : ∀ st ∈ out, PlainUpK st)
    (hpk : ∀ key, (lookup (V.cl y).peerSK key).isSome = true → (lookup c'.peerSK key).isSome = true)
    (hown : ∀ g, (lookup c'.ownSK g).isSome = true → (lookup (V.cl y).ownSK g).isSome = true)
    (hdist : ∀ a g, isDistDown a g hd = true → (lookup c'.peerSK (g, a)).isSome = true) :
    GV groups ((V.popOut y (if keep then hd :: rest else rest)).cstep y c' out k) := by
  refine h.step hown (fun a g ha h0 => (avail_self ha).mpr ?_)
  unfold avail at h0
  rw [hq] at h0
  cases keep with
  | true => exact h0.imp_left (hpk _)
  | false =>
    -- the stanza taken off was plain for this key, or the distribution itself
    rw [if_neg Bool.false_ne_true]
    simp only [scan] at h0
    cases hc : cls (isDistDown a g) (needsDown a g) hd with
    | none => rw [hc] at h0; exact h0.imp_left (hpk _)
    | some b =>
      rw [hc] at h0
      exact Or.inl (h0.elim (hpk _) fun hb => hdist a g (cls_some_true (n := needsDown a g) (hc.trans (congrArg some hb))))

theorem GV.server {hd : Stanza} {rest : List Stanza} {add : Acct → List Stanza}
    (h : GV groups V) (hq : V.inb x = hd :: rest)
    (hadd : ∀ a g y, y ∈ (lookup groups g).getD [] → y ≠ a → scan (isDistDown a g) (needsDown a g) (add y) =
      if a = x then cls (isDistUp g y) (needsUp g y) hd else none) :
    GV groups ((V.popIn x rest).pushes add) := by
  intro a g hown y hy hya
  have h0 := h a g hown y hy hya
  unfold avail at h0 ⊢
  rcases h0 with h1 | h1
  · exact Or.inl h1
  · right
    have e1 : ((V.popIn x rest).pushes add).outb y = V.outb y ++ add y := rfl
    rw [e1, scan_append]
    cases hs : scan (isDistDown a g) (needsDown a g) (V.outb y) with
    | some b => rw [hs] at h1; exact h1
    | none =>
      rw [hs] at h1
      simp only at h1 ⊢
      rw [hadd a g y hy hya]
      by_cases hax : a = x
      · subst hax
        have e2 : ((V.popIn a rest).pushes add).inb a = rest := if_pos rfl
        rw [e2, if_pos rfl]
        rw [hq] at h1
        simp only [scan] at h1
        cases hc : cls (isDistUp g y) (needsUp g y) hd with
        | some b => rw [hc] at h1; simp only at h1 ⊢; exact Option.some.inj h1
        | none => rw [hc] at h1; exact h1
      · have e2 : ((V.popIn x rest).pushes add).inb a = V.inb a := if_neg hax
        rw [e2, if_neg hax]
        exact h1

end

theorem cls_up_dist {g : Nat} {y : Acct} {id : Nat} {im : Bool} {encs : List (Option Acct × Ct)} {pl : Option Payload}
    (h : encs.any (fun e => e.1 == some y) = true) :
    cls (isDistUp g y) (needsUp g y) (.msg id (.group g) none im encs pl) = some true := by
  simp [cls, isDistUp, h]

theorem cls_up_none {g : Nat} {y : Acct} {st : Stanza} (h : ∀ id im encs pl, st ≠ .msg id (.group g) none im encs pl) :
    cls (isDistUp g y) (needsUp g y) st = none := by
  cases st with
  | msg id dest part im encs pl =>
    cases dest with
    | user b => rfl
    | group g' =>
      cases part with
      | some p => rfl
      | none =>
        have hgg : (g' == g) = false := beq_false_of_ne (fun e => h id im encs pl (e ▸ rfl))
        simp [cls, isDistUp, needsUp, hgg]
  | _ => rfl

theorem cls_down_none {a : Acct} {g : Nat} {st : Stanza}
    (h : ∀ id im encs pl, st = .msg id (.group g) (some a) im encs pl → encs.any isSk = false) :
    cls (isDistDown a g) (needsDown a g) st = none := by
  cases st with
  | msg id peer part im encs pl =>
    cases peer with
    | user b => rfl
    | group g' =>
      cases part with
      | none => rfl
      | some a' =>
        cases hb : (g' == g && a' == a) with
        | false => simp [cls, isDistDown, needsDown, hb]
        | true =>
          simp only [Bool.and_eq_true, beq_iff_eq] at hb
          obtain ⟨rfl, rfl⟩ := hb
          simp [cls, isDistDown, needsDown, h id im encs pl rfl]
  | _ => rfl

theorem isDistDown_msg {a : Acct} {g id : Nat} {peer : Dest} {part : Option Acct} {im : Bool} {encs : List (Option Acct × Ct)}
    {pl : Option Payload} (h : isDistDown a g (.msg id peer part im encs pl) = true) :
    peer = .group g ∧ part = some a ∧ encs.any (fun e => !isSk e) = true ∧ encs.any isSk = true := by
  cases peer with
  | user b => simp [isDistDown] at h
  | group g' =>
    cases part with
    | none => simp [isDistDown] at h
    | some a' =>
      simp only [isDistDown, Bool.and_eq_true, beq_iff_eq] at h
      obtain ⟨⟨⟨rfl, rfl⟩, h1⟩, h2⟩ := h
      exact ⟨rfl, rfl, h1, h2⟩

end Yow.E2E
