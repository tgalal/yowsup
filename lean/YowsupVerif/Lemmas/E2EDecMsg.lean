/-
  The delivery of a message stanza keeps decryptability and the timely arrival of sender keys, whether the stanza arrives
  as queued, is left in the queue as well, or arrives damaged; an undamaged live stanza is opened and shown.  The invariant
  says of the ciphertext picked first that it names a session both sides have; E2EDecOpen then says what the decryption
  returns, and `heC` (E2ETokHandleEnc, E2ETokHandleEncFrame) what becomes of the record.
-/
import YowsupVerif.Lemmas.E2ETokHandleEncFrame
import YowsupVerif.Lemmas.E2EDecOpen
import YowsupVerif.Lemmas.E2EDecIq
namespace Yow.E2E

theorem storeC_sk (c1 : Client) (x : Acct) {pl : Plain} {g gen : Nat} (h : pl.skdm = some (g, gen)) :
    lookup (storeC c1 x pl).peerSK (g, x) = some gen ∧ (storeC c1 x pl).seenSK = c1.seenSK := by
  unfold storeC
  rw [h]
  exact ⟨(lookup_insert _ _ _ _).trans (if_pos rfl), rfl⟩

theorem storeC_peerSK (c : Client) (x : Acct) (pl : Plain) :
    (∀ g z gen, lookup (storeC c x pl).peerSK (g, z) = some gen →
      lookup c.peerSK (g, z) = some gen ∨ (z = x ∧ pl.skdm = some (g, gen))) ∧
    (∀ key, (lookup c.peerSK key).isSome = true → (lookup (storeC c x pl).peerSK key).isSome = true) := by
  unfold storeC
  cases pl.skdm with
  | none => exact ⟨fun _ _ _ h => Or.inl h, fun _ h => h⟩
  | some gg =>
    obtain ⟨g', gen'⟩ := gg
    constructor
    · intro g z gen hl
      simp only [lookup_insert] at hl
      split at hl
      · next e => cases hl; cases e; exact Or.inr ⟨rfl, rfl⟩
      · exact Or.inl hl
    · intro key hk
      simp only [lookup_insert]
      split
      · rfl
      · exact hk

theorem heC_crypto (c : Client) (id : Nat) (peer : Dest) (part : Option Acct) (im : Bool) (encs : List (Option Acct × Ct))
    (pl : Option Payload) {c' : Client} (hc' : (heC c id peer part im encs pl).1 = c')
    (hfk : ∀ ct, heFirst encs = some ct → (ct.kind = .msg → known c (whoOf peer part) ct.sess) ∧
      (ct.corrupt = false → (ct.sess, ct.ctr) ∉ c.seen)) :
    (∀ j σ, known c j σ → known c' j σ) ∧
    (∀ j se, lookup c'.sessions j = some se → se.pendingPre = false →
      lookup c.sessions j = some se ∨ (j = whoOf peer part ∧ ∃ ct, heFirst encs = some ct ∧ se.cur = ct.sess)) ∧
    (∀ g z gen, lookup c'.peerSK (g, z) = some gen →
      lookup c.peerSK (g, z) = some gen ∨ (z = whoOf peer part ∧ ∃ ct, heFirst encs = some ct ∧ ct.plain.skdm = some (g, gen))) ∧
    (∀ key, (lookup c.peerSK key).isSome = true → (lookup c'.peerSK key).isSome = true) ∧
    (∀ ct g gen, heFirst encs = some ct → ct.corrupt = false → ct.plain.skdm = some (g, gen) →
      lookup c'.peerSK (g, whoOf peer part) = some gen) ∧
    (∀ ct, heFirst encs = some ct → ct.corrupt = false → (ct.sess, ct.ctr) ∈ c'.seen) ∧
    (∀ ct, heFirst encs = some ct → (decrypt c (whoOf peer part) ct).2 ≠ .noSession) := by
  obtain ⟨hs, hseen, hpk⟩ := heC_fields c id peer part im encs pl
  rw [hc'] at hs hseen hpk
  by_cases hgood : ∃ ct, heFirst encs = some ct ∧ ct.corrupt = false
  · obtain ⟨ct, hf, hcor⟩ := hgood
    obtain ⟨hm, hns⟩ := hfk ct hf
    have hk := heFirst_kind hf
    obtain ⟨se', hd, e1, e2, e3⟩ := decrypt_ok_full hk hcor (hns hcor) hm
    rw [hf] at hs hseen hpk
    simp only [hd] at hs hseen hpk
    refine ⟨?_, ?_, ?_, ?_, ?_, ?_, ?_⟩
    · intro j σ hkn
      unfold known
      rw [hs]
      by_cases hj : j = whoOf peer part
      · subst hj
        exact ⟨se', by rw [lookup_insert, if_pos rfl], e3 σ hkn⟩
      · obtain ⟨se0, h1, h2⟩ := hkn
        exact ⟨se0, by rw [lookup_insert, if_neg hj]; exact h1, h2⟩
    · intro j se hl hp
      rw [hs, lookup_insert] at hl
      split at hl
      · next e =>
        cases hl
        exact Or.inr ⟨e, ct, hf, e1⟩
      · exact Or.inl hl
    · intro g z gen hl
      rw [hpk] at hl
      rcases (storeC_peerSK _ _ _).1 g z gen hl with h1 | ⟨h1, h2⟩
      · exact Or.inl h1
      · exact Or.inr ⟨h1, ct, hf, h2⟩
    · intro key hkk
      rw [hpk]
      exact (storeC_peerSK _ _ _).2 key hkk
    · intro ct' g gen h1 _ h3
      rw [hf] at h1
      cases h1
      rw [hpk]
      exact (storeC_sk _ _ h3).1
    · intro ct' h1 _
      rw [hf] at h1
      cases h1
      rw [hseen]
      exact List.mem_append_right _ (List.mem_singleton.mpr rfl)
    · intro ct' h1
      rw [hf] at h1
      cases h1
      rw [hd]
      exact fun e => by cases e
  · -- no undamaged first ciphertext: stage 1 changes nothing
    have hbad : ∀ ct, heFirst encs = some ct → decrypt c (whoOf peer part) ct = (c, .invalid) := by
      intro ct hf
      cases hc : ct.corrupt with
      | false => exact absurd ⟨ct, hf, hc⟩ hgood
      | true => exact decrypt_corrupt (heFirst_kind hf) hc fun h => let ⟨se, h1, _⟩ := (hfk ct hf).1 h; h1 ▸ rfl
    have hcor : ∀ ct, heFirst encs = some ct → ct.corrupt = false → False := fun ct hf hc => hgood ⟨ct, hf, hc⟩
    have hsame : c'.sessions = c.sessions ∧ c'.peerSK = c.peerSK := by
      cases hf : heFirst encs with
      | none => rw [hf] at hs hpk; exact ⟨hs, hpk⟩
      | some ct =>
        rw [hf] at hs hpk
        simp only [hbad ct hf] at hs hpk
        exact ⟨hs, hpk⟩
    obtain ⟨hs, hpk⟩ := hsame
    exact ⟨fun j σ hk => known_of_sessions hs hk, fun j se hl _ => Or.inl (hs ▸ hl), fun g z gen hl => Or.inl (hpk ▸ hl),
      fun key hk => by rw [hpk]; exact hk, fun ct _ _ hf hc _ => (hcor ct hf hc).elim,
      fun ct hf hc => (hcor ct hf hc).elim, fun ct hf => by rw [hbad ct hf]; exact fun e => by cases e⟩


theorem corruptLast_shape {id : Nat} {peer : Dest} {part : Option Acct} {im : Bool} {encs : List (Option Acct × Ct)} {pl : Option Payload}
    (h : DownShape (.msg id peer part im encs pl)) :
    DownShape (.msg id peer part im (corruptLast encs) pl) ∧
    ∀ ct, heFirst (corruptLast encs) = some ct → ∃ ct0, heFirst encs = some ct0 ∧ (ct = ct0 ∨ ct = { ct0 with corrupt := true }) := by
  rcases h with ⟨ct, rfl, hk, hc⟩ | ⟨hg, l, k, rfl, hk, hc, hl⟩
  · refine ⟨Or.inl ⟨{ ct with corrupt := true }, rfl, hk, hc⟩, ?_⟩
    intro ct' h'
    have e : corruptLast [((none : Option Acct), ct)] = [(none, { ct with corrupt := true })] := rfl
    rw [e, heFirst_single (ct := { ct with corrupt := true }) hk] at h'
    cases h'
    exact ⟨ct, heFirst_single hk, Or.inr rfl⟩
  · rw [corruptLast_append_single]
    refine ⟨Or.inr ⟨hg, l, { k with corrupt := true }, rfl, hk, hc, hl⟩, ?_⟩
    intro ct' h'
    rw [heFirst_append_sk (k := { k with corrupt := true }) hk] at h'
    exact ⟨ct', by rw [heFirst_append_sk hk]; exact h', Or.inl rfl⟩

/-- in a stanza with a sender-key ciphertext that is the one damaged -/
theorem corruptLast_first {id : Nat} {peer : Dest} {part : Option Acct} {im : Bool} {encs : List (Option Acct × Ct)} {pl : Option Payload}
    (h : DownShape (.msg id peer part im encs pl)) {k : Ct} (hfk : firstKind encs .skmsg = some k) :
    heFirst (corruptLast encs) = heFirst encs := by
  rcases h with ⟨ct, rfl, hk, _⟩ | ⟨_, l, k', rfl, hk, _, _⟩
  · rw [firstKind_single, if_neg hk] at hfk; cases hfk
  · rw [corruptLast_append_single, heFirst_append_sk (k := { k' with corrupt := true }) hk, heFirst_append_sk hk]

theorem shownC_reset_push (c : Client) (id : Nat) (peer : Dest) (part : Option Acct) (p : Payload) :
    1 ≤ shownC (resetC { c with shown := c.shown ++ [{ id := id, peer := peer, participant := part, payload := p }] } id) id := by
  simp [shownC, resetC, List.filter_append]

section
variable {accts : List Acct} {groups : List (Nat × List Acct)}

theorem down_origin {s : Sys} (h : FInv accts groups s) {y : Acct} {id : Nat} {peer : Dest} {part : Option Acct} {im : Bool}
    {encs : List (Option Acct × Ct)} {pl : Option Payload}
    (hmem : Stanza.msg id peer part im encs pl ∈ queueOf s.outbound y) :
    y ∈ accts ∧ whoOf peer part ≠ y ∧ ∀ g, peer = .group g → y ∈ (lookup groups g).getD [] ∧ part = some (whoOf peer part) := by
  obtain ⟨hy, hd, _⟩ := h.ainv.outb_ok y _ hmem
  obtain ⟨a, n, h1, h2, h3, h4, h5⟩ := hd
  have hne := h.tv.neq a n h1 y h3
  refine ⟨hy, by rw [h4.who]; exact fun e => hne e.symm, ?_⟩
  intro g hg
  subst hg
  unfold Origin at h4
  unfold intendedG at h3
  cases hnd : n.dest with
  | user b => rw [hnd] at h4; cases h4.1
  | group g' =>
    rw [hnd] at h4 h3
    obtain ⟨e1, e2⟩ := h4
    cases e1
    subst e2
    exact ⟨(List.mem_filter.mp h3).1, rfl⟩

theorem first_ok {s : Sys} (h : FInv accts groups s) {y : Acct} {id : Nat} {peer : Dest} {part : Option Acct} {im : Bool}
    {encs : List (Option Acct × Ct)} {pl : Option Payload}
    (hmem : Stanza.msg id peer part im encs pl ∈ queueOf s.outbound y)
    {encs' : List (Option Acct × Ct)} (hmode : encs' = encs ∨ encs' = corruptLast encs) :
    ∀ ct, heFirst encs' = some ct →
      (ct.kind = .msg → known (getClient s y) (whoOf peer part) ct.sess) ∧
      (ct.corrupt = false → dead (getClient s y) (.msg id peer part im encs pl) = false → (ct.sess, ct.ctr) ∉ (getClient s y).seen) ∧
      known (getClient s (whoOf peer part)) y ct.sess ∧
      (∀ g gen, ct.plain.skdm = some (g, gen) → destGroup peer = some g ∧ lookup (getClient s (whoOf peer part)).ownSK g = some gen) := by
  have hdd := h.dv.down y _ hmem
  intro ct hct
  -- the ciphertext of the queued stanza that `ct` is, or is the damaged copy of
  obtain ⟨ct0, h0, hc⟩ : ∃ ct0, heFirst encs = some ct0 ∧ (ct = ct0 ∨ ct = { ct0 with corrupt := true }) := by
    rcases hmode with rfl | rfl
    · exact ⟨ct, hct, Or.inl rfl⟩
    · exact (corruptLast_shape hdd.1).2 ct hct
  obtain ⟨e, he, rfl⟩ := heFirst_mem h0
  obtain ⟨hok, hpair⟩ := hdd.2 e he
  obtain ⟨p1, p2⟩ := hpair (heFirst_kind h0)
  rcases hc with rfl | rfl
  · refine ⟨p2, fun _ hlive hin => ?_, p1, hok.skdm⟩
    rw [(dead_iff_seen h0).mpr hin] at hlive
    cases hlive
  · exact ⟨p2, fun hc => (by cases hc), p1, hok.skdm⟩

theorem first_dist {V : View} {y : Acct} {id g : Nat} {part : Option Acct} {im : Bool} {encs : List (Option Acct × Ct)}
    {pl : Option Payload} (hdd : DownDec V y (.msg id (.group g) part im encs pl)) {ct : Ct} (hf : heFirst encs = some ct)
    (hcn : ct.plain.content = none) :
    ∃ gen, ct.plain.skdm = some (g, gen) ∧ lookup (V.cl (whoOf (.group g) part)).ownSK g = some gen := by
  obtain ⟨e0, he0, rfl⟩ := heFirst_mem hf
  have hct := (hdd.2 e0 he0).1
  obtain ⟨⟨g2, gen⟩, hsd⟩ := Option.isSome_iff_exists.mp (hct.dist (heFirst_kind hf) hcn)
  obtain ⟨e1, hown⟩ := hct.skdm g2 gen hsd
  cases e1
  exact ⟨gen, hsd, hown⟩

theorem msg_crypto {s : Sys} (h : FInv accts groups s) {y : Acct} {id : Nat} {peer : Dest} {part : Option Acct} {im : Bool}
    {encs : List (Option Acct × Ct)} {pl : Option Payload} {rest : List Stanza}
    (hq : queueOf s.outbound y = .msg id peer part im encs pl :: rest)
    (hlive : dead (getClient s y) (.msg id peer part im encs pl) = false)
    {encs' : List (Option Acct × Ct)} (hmode : encs' = encs ∨ encs' = corruptLast encs) (keep : Bool) :
    DV groups (((view s).popOut y (if keep then .msg id peer part im encs pl :: rest else rest)).cstep y
      (heC (getClient s y) id peer part im encs' pl).1 (heC (getClient s y) id peer part im encs' pl).2 (view s).nextCtr) ∧
    GV groups (((view s).popOut y (if keep then .msg id peer part im encs pl :: rest else rest)).cstep y
      (heC (getClient s y) id peer part im encs' pl).1 (heC (getClient s y) id peer part im encs' pl).2 (view s).nextCtr) ∧
    (∀ key, (lookup (getClient s y).peerSK key).isSome = true →
      (lookup (heC (getClient s y) id peer part im encs' pl).1.peerSK key).isSome = true) ∧
    (∀ a g, isDistDown a g (.msg id peer part im encs pl) = true →
      (lookup (heC (getClient s y) id peer part im encs' pl).1.peerSK (g, a)).isSome = true) ∧
    (∀ ct, heFirst encs' = some ct → (decrypt (getClient s y) (whoOf peer part) ct).2 ≠ .noSession) ∧
    (∀ ct, heFirst encs = some ct → encs' = encs → (ct.sess, ct.ctr) ∈ (heC (getClient s y) id peer part im encs' pl).1.seen) := by
  have hmem : Stanza.msg id peer part im encs pl ∈ queueOf s.outbound y := by rw [hq]; exact List.mem_cons_self
  have hdd := h.dv.down y _ hmem
  obtain ⟨hy, hxy, hgrp⟩ := down_origin h hmem
  have hfirst := first_ok h hmem hmode
  generalize hr : heC (getClient s y) id peer part im encs' pl = r
  obtain ⟨c', out⟩ := r
  obtain ⟨hknown, hsess, hpsk, hpskKeep, hdistKey, hseen, hns⟩ := heC_crypto (getClient s y) id peer part im encs' pl (congrArg Prod.fst hr)
    (fun ct hct => ⟨(hfirst ct hct).1, fun hc => (hfirst ct hct).2.1 hc hlive⟩)
  have hQ := (quiet_heC (getClient s y) id peer part im encs' pl hns).1
  rw [hr] at hQ
  have hout : ∀ st ∈ out, PlainUpK st := fun st hst => plainUpK_nomsg (hQ.out st hst).1
  have hown : ∀ g, (lookup c'.ownSK g).isSome = true → (lookup ((view s).cl y).ownSK g).isSome = true := by
    intro g hg; rw [hQ.same.ownSK] at hg; exact hg
  -- the distribution that comes with the head is stored
  have hdist : ∀ a g, isDistDown a g (.msg id peer part im encs pl) = true → (lookup c'.peerSK (g, a)).isSome = true := by
    intro a g hdi
    obtain ⟨rfl, rfl, hns, hsk'⟩ := isDistDown_msg hdi
    obtain ⟨e1, he1, hne1⟩ := List.any_eq_true.mp hns
    obtain ⟨e2, he2, hsk2⟩ := List.any_eq_true.mp hsk'
    rcases hdd.1.found with ⟨_, _, _, hnosk⟩ | ⟨g', k, e, hfk, _, hcn⟩
    · exact absurd (beq_iff_eq.mp hsk2) (firstKind_none hnosk e2 he2)
    · cases e
      -- there is a pairwise ciphertext, so one is opened first: the distribution
      cases hf : heFirst encs with
      | none => rw [isSk, heFirst_none_sk hf e1 he1] at hne1; cases hne1
      | some ct =>
        obtain ⟨gen, hsd, _⟩ := first_dist hdd hf (hcn ct hf)
        obtain ⟨e0, he0, rfl⟩ := heFirst_mem hf
        have hf' : heFirst encs' = some e0.2 := by
          rcases hmode with rfl | rfl
          · exact hf
          · rw [corruptLast_first hdd.1 hfk]; exact hf
        rw [show a = whoOf (.group g) (some a) from rfl, hdistKey e0.2 g gen hf' (hdd.2 e0 he0).1.uncorrupt hsd]
        rfl
  refine ⟨?_, GV.deliver keep h.gv hq hout hpskKeep hown hdist, hpskKeep, hdist, hns, ?_⟩
  · -- decryptability
    refine h.dv.client_step_reg (cons := if keep then [] else [.msg id peer part im encs pl])
      (by show queueOf s.outbound y = _; rw [hq]; cases keep <;> rfl)
      ⟨hknown, fun g gen hg => by rw [hQ.same.ownSK]; exact hg⟩ ?_ ?_ hQ.same.pend ?_
      (fun e he => Or.inl ⟨hQ.same.iqReg ▸ he, fun st hst => by rw [(hQ.out st hst).2]; exact fun e => by cases e⟩)
    · intro j se hl hp
      rcases hsess j se hl hp with h1 | ⟨rfl, ct, hct, hcur⟩
      · exact Or.inl h1
      · exact Or.inr ⟨hxy, by rw [hcur]; exact (hfirst ct hct).2.2.1⟩
    · intro g z gen hl
      rcases hpsk g z gen hl with h1 | ⟨rfl, ct, hct, hsd⟩
      · exact Or.inl h1
      · exact Or.inr ⟨hxy, ((hfirst ct hct).2.2.2 g gen hsd).2⟩
    · intro st hst
      cases st with
      | msg id' peer' part' im' encs'' pl' => exact absurd rfl ((hQ.out _ hst).1 id' peer' part' im' encs'' pl')
      | _ => trivial
  · intro ct hct he
    subst he
    obtain ⟨e, he, rfl⟩ := heFirst_mem hct
    exact hseen e.2 hct (hdd.2 e he).1.uncorrupt

theorem sk_known {s : Sys} (h : FInv accts groups s) {y : Acct} {id g : Nat} {part : Option Acct} {im : Bool}
    {encs : List (Option Acct × Ct)} {k : Ct} {pl : Option Payload} {rest : List Stanza}
    (hq : queueOf s.outbound y = .msg id (.group g) part im encs pl :: rest)
    (hf : heFirst encs = none) (hfk : firstKind encs .skmsg = some k) :
    lookup (getClient s y).peerSK (g, whoOf (.group g) part) = some k.sess := by
  have hmem : Stanza.msg id (.group g) part im encs pl ∈ queueOf s.outbound y := by rw [hq]; exact List.mem_cons_self
  have hdd := h.dv.down y _ hmem
  obtain ⟨hy, hxy, hgrp⟩ := down_origin h hmem
  obtain ⟨hym, hpart⟩ := hgrp g rfl
  obtain ⟨e, he, rfl⟩ := firstKind_mem hfk
  obtain ⟨g', e1, hown⟩ := (hdd.2 e he).1.sk (firstKind_kind hfk)
  cases e1
  rcases h.gv (whoOf (.group g) part) g (by rw [hown]; rfl) y hym (fun e => hxy e.symm) with h1 | h1
  · obtain ⟨gen, hl⟩ := Option.isSome_iff_exists.mp h1
    have := h.dv.g2 y g _ gen hl
    rw [hown] at this
    cases this
    exact hl
  · -- a stanza of sender-key ciphertexts alone is not waiting behind a distribution: it heads the queue and needs the key
    exfalso
    have hall : ∀ e ∈ encs, isSk e = true := fun e he => beq_iff_eq.mpr (heFirst_none_sk hf e he)
    have h2 : encs.any (fun e => !isSk e) = false := List.any_eq_false.mpr fun e he => by simp [hall e he]
    have h3 : encs.all isSk = true := List.all_eq_true.mpr hall
    have h4 : encs.any isSk = true := List.any_eq_true.mpr ⟨e, he, hall e he⟩
    rw [show (view s).outb y = .msg id (.group g) part im encs pl :: rest from hq, hpart] at h1
    simp [scan, cls, isDistDown, needsDown, h2, h3, h4, whoOf] at h1

theorem msg_opened {s : Sys} (h : FInv accts groups s) {y : Acct} {id : Nat} {peer : Dest} {part : Option Acct} {im : Bool}
    {encs : List (Option Acct × Ct)} {pl : Option Payload} {rest : List Stanza}
    (hq : queueOf s.outbound y = .msg id peer part im encs pl :: rest)
    (hlive : dead (getClient s y) (.msg id peer part im encs pl) = false) :
    dead (heC (getClient s y) id peer part im encs pl).1 (.msg id peer part im encs pl) = true ∧
    1 ≤ shownC (heC (getClient s y) id peer part im encs pl).1 id ∧
    (heC (getClient s y) id peer part im encs pl).2 = [.receipt id peer part .delivery] := by
  have hmem : Stanza.msg id peer part im encs pl ∈ queueOf s.outbound y := by rw [hq]; exact List.mem_cons_self
  have hdd := h.dv.down y _ hmem
  obtain ⟨hy, hxy, hgrp⟩ := down_origin h hmem
  have hfirst := first_ok h hmem (Or.inl rfl)
  obtain ⟨_, _, _, _, _, hseen1⟩ := msg_crypto h hq hlive (Or.inl rfl) false
  have hflat : Stanza.msg id peer part im encs pl ∈ (view (flat s)).outb y := by
    show _ ∈ queueOf (flat s).outbound y
    rw [queueOf_flat, hq, liveQ_cons_live hlive]; exact List.mem_cons_self
  have hun : ∀ e ∈ encs, e.2.ctr ∉ (getClient s y).seen.map Prod.snd ∧ e.2.ctr ∉ (getClient s y).seenSK.map Prod.snd :=
    ctrs_unopened h.tv hy hflat
  -- the first pairwise ciphertext opens
  have hopen : ∀ ct, heFirst encs = some ct → ∃ c1, decrypt (getClient s y) (whoOf peer part) ct = (c1, .ok ct.plain) ∧
      c1.seenSK = (getClient s y).seenSK ∧
      dead (heC (getClient s y) id peer part im encs pl).1 (.msg id peer part im encs pl) = true := by
    intro ct hf
    obtain ⟨e, he, rfl⟩ := heFirst_mem hf
    obtain ⟨f1, f2, _⟩ := hfirst e.2 hf
    have hunc := (hdd.2 e he).1.uncorrupt
    obtain ⟨se', hd1, _⟩ := decrypt_ok_full (heFirst_kind hf) hunc (f2 hunc hlive) f1
    exact ⟨_, hd1, rfl, (dead_iff_seen hf).mpr (hseen1 e.2 hf rfl)⟩
  rcases hdd.1.found with ⟨ct, hf, hc, hsk⟩ | ⟨g, k, rfl, hfk, hc, hcn⟩
  · -- the content is in the pairwise ciphertext
    obtain ⟨p, hp⟩ := Option.isSome_iff_exists.mp hc
    obtain ⟨c1, hd1, _, hdead⟩ := hopen ct hf
    rw [heC_ok hf hd1, stage2C_plain (Or.inl hsk), surfaceC_some hp] at hdead ⊢
    exact ⟨hdead, shownC_reset_push _ id peer part p, rfl⟩
  · -- the content is in the sender-key ciphertext
    obtain ⟨p, hp⟩ := Option.isSome_iff_exists.mp hc
    obtain ⟨ek, hek, rfl⟩ := firstKind_mem hfk
    have hctk := (hdd.2 ek hek).1
    have hkn : (ek.2.sess, ek.2.ctr) ∉ (getClient s y).seenSK := fun hc' => (hun ek hek).2 (List.mem_map.mpr ⟨_, hc', rfl⟩)
    cases hf : heFirst encs with
    | none =>
      rw [heC_none hf, stage2C_ok hfk (groupDecrypt_ok_full (sk_known h hq hf hfk) hctk.uncorrupt hkn), surfaceC_some hp]
      exact ⟨(dead_iff_seenSK hf hfk).mpr (List.mem_append_right _ (List.mem_singleton.mpr rfl)),
        shownC_reset_push _ id (.group g) part p, rfl⟩
    | some ct =>
      obtain ⟨c1, hd1, hsk1, hdead⟩ := hopen ct hf
      -- the distribution that is opened first hands over the key the sender-key ciphertext was made with
      obtain ⟨gen, hsd, hown⟩ := first_dist hdd hf (hcn ct hf)
      obtain ⟨g', e2, hown'⟩ := hctk.sk (firstKind_kind hfk)
      cases e2
      rw [hown] at hown'
      cases hown'
      obtain ⟨hpk, hsk2⟩ := storeC_sk c1 (whoOf (.group g) part) hsd
      have hd2 := groupDecrypt_ok_full hpk hctk.uncorrupt (by rw [hsk2, hsk1]; exact hkn)
      rw [heC_ok hf hd1, surfaceC_none (hcn ct hf), stage2C_ok hfk hd2, surfaceC_some hp] at hdead ⊢
      exact ⟨hdead, shownC_reset_push _ id (.group g) part p, rfl⟩

end

end Yow.E2E
