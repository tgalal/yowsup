/-
  What the two decryptions return for a ciphertext that names a session (`known`, E2EDecInv) or sender key the recipient
  has: opened if undamaged and new, `.duplicate` if opened before, `.invalid` if damaged.  With these the case `handleEnc`
  is in is known: for the invariant under faults (E2EDecMsg, E2EFaultStep) and for the receive path in any state (E2ESteps).
-/
import YowsupVerif.Lemmas.E2EDecInv
namespace Yow.E2E

theorem known_insert_self {c : Client} {x : Acct} {se : Sess} {σ : Nat} (h : se.cur = σ ∨ σ ∈ se.archived) :
    known { c with sessions := insert c.sessions x se } x σ := by
  refine ⟨se, ?_, h⟩
  simp [lookup_insert]

theorem known_insert_other {c : Client} {x j : Acct} {se : Sess} {σ : Nat} (hj : j ≠ x) (h : known c j σ) :
    known { c with sessions := insert c.sessions x se } j σ := by
  obtain ⟨se0, h1, h2⟩ := h
  refine ⟨se0, ?_, h2⟩
  simp only [lookup_insert, hj, if_false]
  exact h1

/-- the session record after a ciphertext of session `s` was opened (`promoteState`): `s` is current and acknowledged, and
    every session known before is still known -/
theorem promote_spec (se : Sess) (s : Nat) :
    ∀ se', se' = (if se.cur = s then { se with pendingPre := false }
      else { cur := s, pendingPre := false, archived := se.cur :: se.archived.filter (· != s) }) →
    se'.cur = s ∧ se'.pendingPre = false ∧ ∀ σ, se.cur = σ ∨ σ ∈ se.archived → se'.cur = σ ∨ σ ∈ se'.archived := by
  intro se' e
  split at e
  · next hc => subst e; exact ⟨hc, rfl, fun σ h => h⟩
  · subst e
    refine ⟨rfl, rfl, fun σ h => ?_⟩
    by_cases hσ : σ = s
    · exact Or.inl hσ.symm
    · refine Or.inr (h.elim (fun h => h ▸ List.mem_cons_self) fun h => List.mem_cons_of_mem _ ?_)
      exact List.mem_filter.mpr ⟨h, by simpa using hσ⟩

theorem decrypt_ok_full {c : Client} {x : Acct} {ct : Ct} (hk : ct.kind ≠ .skmsg) (hc : ct.corrupt = false)
    (hs : (ct.sess, ct.ctr) ∉ c.seen) (hm : ct.kind = .msg → known c x ct.sess) :
    ∃ se', decrypt c x ct = ({ c with sessions := insert c.sessions x se', seen := c.seen ++ [(ct.sess, ct.ctr)] }, .ok ct.plain) ∧
      se'.cur = ct.sess ∧ se'.pendingPre = false ∧ ∀ σ, known c x σ → se'.cur = σ ∨ σ ∈ se'.archived := by
  have hs' : c.seen.contains (ct.sess, ct.ctr) = false := by simpa using hs
  cases hkind : ct.kind with
  | skmsg => exact absurd hkind hk
  | pkmsg =>
    unfold decrypt
    simp only [hkind, hc, hs', Bool.false_eq_true, if_false]
    refine ⟨_, rfl, ?_⟩
    cases hl : lookup c.sessions x with
    | none => exact ⟨rfl, rfl, fun σ ⟨se0, h1, _⟩ => by rw [hl] at h1; cases h1⟩
    | some se0 =>
      obtain ⟨p1, p2, p3⟩ := promote_spec se0 ct.sess _ rfl
      exact ⟨p1, p2, fun σ ⟨se1, h1, h2⟩ => by rw [hl] at h1; cases h1; exact p3 σ h2⟩
  | msg =>
    obtain ⟨se0, h1, h2⟩ := hm hkind
    unfold decrypt
    have hkn : (se0.cur == ct.sess || se0.archived.contains ct.sess) = true := by
      rcases h2 with h2 | h2 <;> simp [h2]
    simp only [hkind, h1, hc, hkn, hs', Bool.false_eq_true, if_false, Bool.not_true]
    obtain ⟨p1, p2, p3⟩ := promote_spec se0 ct.sess _ rfl
    exact ⟨_, rfl, p1, p2, fun σ ⟨se1, h3, h4⟩ => by rw [h1] at h3; cases h3; exact p3 σ h4⟩

theorem decrypt_corrupt {c : Client} {x : Acct} {ct : Ct} (hk : ct.kind ≠ .skmsg) (hc : ct.corrupt = true)
    (hm : ct.kind = .msg → (lookup c.sessions x).isSome = true) : decrypt c x ct = (c, .invalid) := by
  cases hkind : ct.kind with
  | skmsg => exact absurd hkind hk
  | pkmsg => unfold decrypt; simp [hkind, hc]
  | msg =>
    obtain ⟨se0, h1⟩ := Option.isSome_iff_exists.mp (hm hkind)
    unfold decrypt
    simp [hkind, h1, hc]

theorem decrypt_dup {c : Client} {x : Acct} {ct : Ct} (hk : ct.kind ≠ .skmsg) (hc : ct.corrupt = false)
    (hs : (ct.sess, ct.ctr) ∈ c.seen) (hm : ct.kind = .msg → known c x ct.sess) : decrypt c x ct = (c, .duplicate) := by
  have hs' : c.seen.contains (ct.sess, ct.ctr) = true := by simpa using hs
  cases hkind : ct.kind with
  | skmsg => exact absurd hkind hk
  | pkmsg => unfold decrypt; simp [hkind, hc, hs]
  | msg =>
    obtain ⟨se0, h1, h2⟩ := hm hkind
    unfold decrypt
    rcases h2 with h2 | h2 <;> simp [hkind, h1, hc, h2, hs]

theorem groupDecrypt_ok_full {c : Client} {g : Nat} {x : Acct} {k : Ct} (hp : lookup c.peerSK (g, x) = some k.sess)
    (hc : k.corrupt = false) (hs : (k.sess, k.ctr) ∉ c.seenSK) :
    groupDecrypt c g x k = ({ c with seenSK := c.seenSK ++ [(k.sess, k.ctr)] }, .ok k.plain) := by
  unfold groupDecrypt
  simp [hp, hc, hs]

theorem groupDecrypt_dup {c : Client} {g : Nat} {x : Acct} {k : Ct} (hp : lookup c.peerSK (g, x) = some k.sess)
    (hc : k.corrupt = false) (hs : (k.sess, k.ctr) ∈ c.seenSK) : groupDecrypt c g x k = (c, .duplicate) := by
  unfold groupDecrypt
  simp [hp, hc, hs]

theorem groupDecrypt_corrupt {c : Client} {g : Nat} {x : Acct} {k : Ct} (hc : k.corrupt = true) :
    groupDecrypt c g x k = (c, .invalid) ∨ groupDecrypt c g x k = (c, .noSession) := by
  unfold groupDecrypt
  cases lookup c.peerSK (g, x) with
  | none => exact Or.inr rfl
  | some gen => left; simp [hc]

end Yow.E2E
