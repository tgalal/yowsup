/-
  Decryptability when a client sends.  `CSrc`: what is known of the sending client after it consumed an answer (or nothing)
  and possibly made sessions.  From there a message or a query goes out; a ciphertext made by `encryptFor` can be opened
  by its addressee (`entryOK_new`).
-/
import YowsupVerif.Lemmas.E2EFaultNeutral
namespace Yow.E2E

/-- `x` has consumed `cons` and its record has become `c1` by making sessions and taking continuations out -/
structure CSrc (groups : List (Nat × List Acct)) (V : View) (x : Acct) (cons rest : List Stanza) (c1 : Client) : Prop where
  queue : V.outb x = cons ++ rest
  cons_nomsg : ∀ st ∈ cons, ∀ id peer part im encs pl, st ≠ .msg id peer part im encs pl
  known_mono : ∀ j σ, known (V.cl x) j σ → known c1 j σ
  answered_old : ∀ j se, lookup c1.sessions j = some se → se.pendingPre = false → lookup (V.cl x).sessions j = some se
  peerSK : c1.peerSK = (V.cl x).peerSK
  same : SameBut (V.cl x) c1
  reg_sub : ∀ e ∈ c1.iqReg, e ∈ (V.cl x).iqReg
  iq_lt : ∀ e ∈ (V.cl x).iqReg, e.1 < (V.cl x).nextIq
  wire_lt : ∀ st ∈ V.inb x ++ V.outb x, ∀ i, stanzaIq st = some i → i < (V.cl x).nextIq

section
variable {groups : List (Nat × List Acct)} {V : View} {x : Acct} {cons rest : List Stanza} {c1 : Client}

theorem CSrc.smono (hs : CSrc groups V x cons rest c1) (j : Acct) (hj : (lookup (V.cl x).sessions j).isSome = true) :
    (lookup c1.sessions j).isSome = true := by
  obtain ⟨se, hse⟩ := Option.isSome_iff_exists.mp hj
  obtain ⟨se', h', _⟩ := hs.known_mono j se.cur (known_cur hse)
  rw [h']
  rfl

theorem CSrc.cmono (hs : CSrc groups V x cons rest c1) {c' : Client} (h1 : c'.sessions = c1.sessions)
    (h2 : ∀ g gen, lookup c1.ownSK g = some gen → lookup c'.ownSK g = some gen) : CMonoC (V.cl x) c' :=
  ⟨fun j σ hk => known_of_sessions h1 (hs.known_mono j σ hk), fun g gen hg => h2 g gen (by rw [hs.same.ownSK]; exact hg)⟩

theorem CSrc.dstep (h : DV groups V) (hs : CSrc groups V x cons rest c1) {c' : Client} {st : Stanza} {k : Nat}
    (h1 : c'.sessions = c1.sessions) (h2 : ∀ g gen, lookup c1.ownSK g = some gen → lookup c'.ownSK g = some gen)
    (h3 : c'.peerSK = c1.peerSK) (h4 : c'.pendingIn = c1.pendingIn) (h5 : c'.iqReg = c1.iqReg)
    (hst : UpDec ((V.popOut x rest).cstep x c' [st] k) x st) (hiq : stanzaIq st = none) :
    DV groups ((V.popOut x rest).cstep x c' [st] k) := by
  refine h.client_keep hs.queue (hs.cmono h1 h2) (fun j se hl hp => hs.answered_old j se (h1 ▸ hl) hp) (fun j hj => h1 ▸ hs.smono j hj)
    (h3.trans hs.peerSK) (h4.trans hs.same.pend) (fun st' hst' => ?_) (fun e he => Or.inl ⟨hs.reg_sub e (h5 ▸ he), fun st' hst' => ?_⟩)
  all_goals cases List.mem_singleton.mp hst'
  · exact hst
  · rw [hiq]; exact (Option.some_ne_none _).symm

theorem CSrc.gstep (hg : GV groups V) (hs : CSrc groups V x cons rest c1) {c' : Client} {out : List Stanza} {k : Nat}
    (h3 : c'.peerSK = c1.peerSK) (hown : ∀ g, (lookup c'.ownSK g).isSome = true → (lookup c1.ownSK g).isSome = true)
    (hout : ∀ st ∈ out, PlainUpK st) : GV groups ((V.popOut x rest).cstep x c' out k) :=
  hg.client_plain hs.queue (fun st hst => plainDown_nomsg (hs.cons_nomsg st hst)) hout
    (fun key hk => by rw [h3, hs.peerSK]; exact hk) (fun g hg' => by rw [← hs.same.ownSK]; exact hown g hg')

end

/-- a pairwise ciphertext made now for `y`, in a stanza for the group `grp` (if any) -/
theorem entryOK_new {groups V x cons rest c1} (h : DV groups V) (hs : CSrc groups V x cons rest c1) {c' : Client} {out : List Stanza} {k : Nat}
    (h1 : c'.sessions = c1.sessions) (h2 : ∀ g gen, lookup c1.ownSK g = some gen → lookup c'.ownSK g = some gen)
    {y : Acct} {plain : Plain} {nonce : Nat} {ct : Ct} (henc : encryptFor c1 y plain nonce = some ct) {grp : Option Nat}
    (hskdm : ∀ g gen, plain.skdm = some (g, gen) → grp = some g ∧ lookup c'.ownSK g = some gen)
    (hdist : plain.content = none → plain.skdm.isSome = true) :
    CtOK (((V.popOut x rest).cstep x c' out k).cl x) grp ct ∧ PairOK ((V.popOut x rest).cstep x c' out k) x y ct := by
  obtain ⟨se, hse, hsess, hmsg, hk, hpl, hcor, _⟩ := encryptFor_spec henc
  have hclx : ((V.popOut x rest).cstep x c' out k).cl x = c' := View.cstep_cl_same ..
  refine ⟨⟨hcor, fun hk' => absurd hk' hk, by rw [hpl, hclx]; exact hskdm, fun _ => by rw [hpl]; exact hdist⟩, fun _ => ⟨?_, fun hm => ?_⟩⟩
  · rw [hclx, hsess]
    exact known_of_sessions h1 (known_cur hse)
  · -- a `msg` is made only once the peer has answered: it knows the session
    have hold := h.d2 x y se (hs.answered_old y se hse (hmsg hm)) (hmsg hm)
    rw [hsess]
    by_cases hy : y = x
    · subst hy
      rw [hclx]
      exact (hs.cmono h1 h2).1 _ _ hold
    · have : ((V.popOut x rest).cstep x c' out k).cl y = V.cl y := upd_ne _ _ hy
      rw [this]; exact hold

theorem CSrc.toContact {groups V x cons rest c1} (h : DV groups V) (hg : GV groups V) (hs : CSrc groups V x cons rest c1) {n : Node} {b : Acct}
    (hnd : n.dest = .user b) (k : Nat) {nonce : Nat} {ct : Ct}
    (henc : encryptFor c1 b { skdm := none, content := some n.payload } nonce = some ct) :
    DV groups ((V.popOut x rest).cstep x (enqueueSent c1 n) [.msg n.id n.dest none n.payload.isMedia [(none, ct)] none] k) ∧
    GV groups ((V.popOut x rest).cstep x (enqueueSent c1 n) [.msg n.id n.dest none n.payload.isMedia [(none, ct)] none] k) := by
  rw [hnd]
  constructor
  · refine hs.dstep h rfl (fun _ _ hh => hh) rfl rfl rfl (List.forall_mem_singleton.mpr ?_) rfl
    obtain ⟨hc, hp⟩ := entryOK_new (c' := enqueueSent c1 n) (grp := none) h hs rfl (fun _ _ hh => hh) henc
      (fun _ _ e => nomatch e) (fun e => nomatch e)
    exact ⟨hc, fun y hy => by cases (hy : y = b); exact hp⟩
  · exact hs.gstep hg rfl (fun _ hh => hh) (List.forall_mem_singleton.mpr plainUpK_user)

theorem CSrc.toRetry {groups V x cons rest c1} (h : DV groups V) (hg : GV groups V) (hs : CSrc groups V x cons rest c1) {n : Node} {g : Nat} {w : Acct}
    (hnd : n.dest = .group g) (k : Nat) {nonce : Nat} {ct : Ct} {sk : List (Nat × Nat)} {gen : Nat}
    (henc : encryptFor c1 w { skdm := some (g, gen), content := some n.payload } nonce = some ct)
    (hkey : OwnKey c1 g sk gen) (hown : (lookup c1.ownSK g).isSome = true) :
    DV groups ((V.popOut x rest).cstep x { c1 with ownSK := sk } [.msg n.id n.dest (some w) n.payload.isMedia [(none, ct)] none] k) ∧
    GV groups ((V.popOut x rest).cstep x { c1 with ownSK := sk } [.msg n.id n.dest (some w) n.payload.isMedia [(none, ct)] none] k) := by
  rw [hnd]
  constructor
  · refine hs.dstep h rfl hkey.mono rfl rfl rfl (List.forall_mem_singleton.mpr ?_) rfl
    obtain ⟨hc, hp⟩ := entryOK_new (c' := { c1 with ownSK := sk }) (grp := some g) h hs rfl hkey.mono henc
      (fun _ _ e => by cases e; exact ⟨rfl, hkey.key⟩) (fun e => nomatch e)
    exact ⟨hc, fun y hy => by cases (hy : y = w); exact hp⟩
  · refine hs.gstep hg rfl (fun g' hg' => ?_) (List.forall_mem_singleton.mpr plainUpK_some)
    rcases hkey.only_g g' hg' with h1 | rfl
    · exact h1
    · exact hown

theorem CSrc.toCont {groups V x cons rest c1} (h : DV groups V) (hg : GV groups V) (hs : CSrc groups V x cons rest c1) (k1 : Cont) (st : Stanza) (k : Nat)
    (hst : ∀ id peer part im encs pl, st ≠ .msg id peer part im encs pl) (hiq : stanzaIq st = some c1.nextIq)
    (hc1 : ∀ n', k1 = Cont.groupInfo n' → ∃ g, n'.dest = .group g ∧ st = .getGroup c1.nextIq g)
    (hc2 : ∀ n' al aq, k1 = Cont.keysForGroup n' al aq → ∃ g, n'.dest = .group g ∧
      al = ((lookup groups g).getD []).filter (· != x) ∧ ∀ j ∈ al, (lookup c1.sessions j).isSome = true ∨ j ∈ aq)
    (hp : ∀ p q, k1 ≠ Cont.keysForPending p q) :
    DV groups ((V.popOut x rest).cstep x { c1 with nextIq := c1.nextIq + 1, iqReg := c1.iqReg ++ [(c1.nextIq, k1)] } [st] k) ∧
    GV groups ((V.popOut x rest).cstep x { c1 with nextIq := c1.nextIq + 1, iqReg := c1.iqReg ++ [(c1.nextIq, k1)] } [st] k) := by
  constructor
  · refine h.client_keep hs.queue (hs.cmono rfl (fun _ _ hh => hh)) hs.answered_old hs.smono hs.peerSK hs.same.pend ?_ ?_
    · intro st' hst'
      cases List.mem_singleton.mp hst'
      cases st with
      | msg id peer part im encs pl => exact absurd rfl (hst id peer part im encs pl)
      | _ => trivial
    · intro e he
      rcases List.mem_append.mp (show e ∈ c1.iqReg ++ [(c1.nextIq, k1)] from he) with h1 | h1
      · -- the query bears the next number, the registered ones are below
        refine Or.inl ⟨hs.reg_sub e h1, fun st' hst' hiq' => ?_⟩
        cases List.mem_singleton.mp hst'
        have := hs.iq_lt e (hs.reg_sub e h1)
        have : c1.nextIq = e.1 := Option.some.inj (hiq.symm.trans hiq')
        rw [hs.same.nextIq] at this
        omega
      · cases List.mem_singleton.mp h1
        refine Or.inr ⟨hp, fun n' hn' => ?_, hc2⟩
        -- nothing on the way bears the next number yet
        obtain ⟨g, g1, g2⟩ := hc1 n' hn'
        have hlink : ∀ st' ∈ V.inb x ++ V.outb x, stanzaIq st' ≠ some c1.nextIq := fun st' hst' hiq' => by
          have := hs.wire_lt st' hst' _ hiq'
          rw [hs.same.nextIq] at this
          omega
        refine ⟨g, g1, fun st' hst' hiq' => ?_, fun st' hst' hiq' =>
          absurd hiq' (hlink st' (List.mem_append_right _ (hs.queue ▸ List.mem_append_right _ hst')))⟩
        rcases List.mem_append.mp hst' with h6 | h6
        · exact absurd hiq' (hlink st' (List.mem_append_left _ h6))
        · cases List.mem_singleton.mp h6; exact g2
  · refine hs.gstep hg rfl (fun _ hh => hh) (fun st' hst' => ?_)
    cases List.mem_singleton.mp hst'
    exact plainUpK_nomsg hst

/-- without an own key for `g` a client has made no sender-key ciphertext for `g` -/
theorem CtOK.not_sk {cx g e} (h : CtOK cx (some g) e) (hown : (lookup cx.ownSK g).isSome = false) :
    e.kind ≠ .skmsg := by
  intro hk
  obtain ⟨g', e1, e2⟩ := h.sk hk
  cases e1
  rw [e2] at hown
  cases hown

/-- `l`: the sender-key distributions; after them the sender-key ciphertext -/
theorem CSrc.toGroup {groups V x cons rest c1} (h : DV groups V) (hg : GV groups V) (hs : CSrc groups V x cons rest c1) {n : Node} {g : Nat}
    (hnd : n.dest = .group g) (k m : Nat) {sk : List (Nat × Nat)} {gen : Nat} {l : List (Option Acct × Ct)}
    (hups : ∀ st' ∈ V.inb x, UpShape st') (hkey : OwnKey c1 g sk gen)
    (hl : ∀ e ∈ l, ∃ j nonce, e.1 = some j ∧ encryptFor c1 j { skdm := some (g, gen), content := none } nonce = some e.2)
    (hcov : (lookup (V.cl x).ownSK g).isSome = false → ∀ y, y ∈ (lookup groups g).getD [] → y ≠ x → ∃ e ∈ l, e.1 = some y) :
    DV groups ((V.popOut x rest).cstep x (enqueueSent { c1 with ownSK := sk } n)
      [.msg n.id n.dest none n.payload.isMedia
        (l ++ [(none, { kind := .skmsg, sess := gen, ctr := m, plain := { skdm := none, content := some n.payload },
                        corrupt := false })]) none] k) ∧
    GV groups ((V.popOut x rest).cstep x (enqueueSent { c1 with ownSK := sk } n)
      [.msg n.id n.dest none n.payload.isMedia
        (l ++ [(none, { kind := .skmsg, sess := gen, ctr := m, plain := { skdm := none, content := some n.payload },
                        corrupt := false })]) none] k) := by
  have hclx : ∀ out, (((V.popOut x rest).cstep x (enqueueSent { c1 with ownSK := sk } n) out k).cl x).ownSK = sk := by
    intro out; rw [View.cstep_cl_same]; rfl
  have hplain : ∀ st' ∈ cons, PlainDown st' := fun st' hst' => plainDown_nomsg (hs.cons_nomsg st' hst')
  have hown' : ∀ g', (lookup sk g').isSome = true → (lookup (V.cl x).ownSK g').isSome = true ∨ g' = g := fun g' hg' =>
    (hkey.only_g g' hg').imp_left (fun h1 => hs.same.ownSK ▸ h1)
  rw [hnd]
  constructor
  · refine hs.dstep (c' := enqueueSent { c1 with ownSK := sk } n) h rfl hkey.mono rfl rfl rfl ?_ rfl
    intro e he
    rcases List.mem_append.mp he with h1 | h1
    · obtain ⟨j, nonce, e1, henc⟩ := hl e h1
      obtain ⟨hc, hp⟩ := entryOK_new (c' := enqueueSent { c1 with ownSK := sk } n) (grp := some g) h hs rfl hkey.mono henc
        (fun _ _ e => by cases e; exact ⟨rfl, hkey.key⟩) (fun _ => rfl)
      refine ⟨hc, fun y hy => ?_⟩
      cases e1.symm.trans (hy : e.1 = some y)
      exact hp
    · cases List.mem_singleton.mp h1
      refine ⟨⟨rfl, ?_, ?_, fun hk' => absurd rfl hk'⟩, ?_⟩
      · intro _; exact ⟨g, rfl, by rw [hclx]; exact hkey.key⟩
      · intro g' gen' hh; cases hh
      · intro y hy
        cases (hy : (none : Option Acct) = some y)
  · cases hown : (lookup (V.cl x).ownSK g).isSome with
    | true =>
      refine hg.later_send hs.queue hplain (fun key hk' => hs.peerSK ▸ hk') ?_
      intro g' hg'
      rcases hown' g' hg' with h1 | h1
      · exact h1
      · subst h1; exact hown
    | false =>
      -- first the answer is taken from the queue, then the first send: nothing on the way concerns `x`'s key for `g` yet
      have hg1 : GV groups (V.popOut x rest) :=
        (congrArg (GV groups) (View.cstep_id (V.popOut x rest) x)).mp
          (hg.client_plain hs.queue hplain (fun st' hst' => by cases hst') (fun _ hk' => hk') (fun _ hg' => hg'))
      refine GV.first_send (g0 := g) hg1
        hs.peerSK (fun g' hg' => hown' g' hg')
        (by
          intro y hy hyx
          obtain ⟨e, he, hey⟩ := hcov hown y hy hyx
          exact cls_up_dist (List.any_eq_true.mpr ⟨e, List.mem_append_left _ he, by rw [hey]; exact beq_self_eq_true _⟩))
        (fun g' y hgg => cls_up_none (fun _ _ _ _ e => by cases e; exact hgg rfl))
        hown
        (by
          intro st' hst' y
          refine cls_up_none ?_
          rintro id im encs pl rfl
          have hst'' : Stanza.msg id (.group g) none im encs pl ∈ V.inb x := hst'
          obtain ⟨l', k', rfl, hk', _, _⟩ : ShapeB (fun t => t.isSome = true) encs := hups _ hst''
          exact (h.up x _ hst'' (none, k') (List.mem_append_right _ List.mem_cons_self)).1.not_sk hown hk')
        (by
          intro y st' hst'
          refine cls_down_none ?_
          rintro id im encs pl rfl
          have hst'' : Stanza.msg id (.group g) (some x) im encs pl ∈ V.outb y := by
            have : _ ∈ upd V.outb x rest y := hst'
            rw [upd_apply] at this
            split at this
            · next e => subst e; rw [hs.queue]; exact List.mem_append_right _ this
            · exact this
          rw [Bool.eq_false_iff]
          intro hany
          obtain ⟨e, he, hsk'⟩ := List.any_eq_true.mp hany
          exact ((h.down y _ hst'').2 e he).1.not_sk hown (eq_of_beq hsk'))

end Yow.E2E
