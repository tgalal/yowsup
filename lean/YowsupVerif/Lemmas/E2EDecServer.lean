/-
  The server's step keeps decryptability (`DV`, E2EDecInv) and the timely arrival of sender keys (`GV`, E2EDecKeys):
  `process_crypto`, over the description of what the server queues in E2ETokServer.
-/
import YowsupVerif.Lemmas.E2EDecKeys
import YowsupVerif.Lemmas.E2ETokServed
namespace Yow.E2E

theorem plainDown_shapeA {id : Nat} {peer : Dest} {part : Option Acct} {im : Bool} {encs : List (Option Acct × Ct)}
    {pl : Option Payload} (h : ShapeA encs) : PlainDown (.msg id peer part im encs pl) := by
  obtain ⟨ct, rfl, hk, _⟩ := h
  intro a g
  unfold cls isDistDown needsDown
  cases peer with
  | user b => rfl
  | group g' =>
    cases part with
    | none => rfl
    | some a' =>
      have : isSk ((none : Option Acct), ct) = false := by simp [isSk, hk]
      simp [this]

theorem plainUpK_user {id : Nat} {b : Acct} {part : Option Acct} {im : Bool} {encs : List (Option Acct × Ct)} {pl : Option Payload} :
    PlainUpK (.msg id (.user b) part im encs pl) := PlainUpK.of_not_group (fun _ _ _ _ _ e => by cases e)

theorem plainUpK_some {id g : Nat} {p : Acct} {im : Bool} {encs : List (Option Acct × Ct)} {pl : Option Payload} :
    PlainUpK (.msg id (.group g) (some p) im encs pl) := PlainUpK.of_not_group (fun _ _ _ _ _ e => by cases e)

theorem scan_plainDown {l : List Stanza} (h : ∀ st ∈ l, PlainDown st) (a : Acct) (g : Nat) :
    scan (isDistDown a g) (needsDown a g) l = none := scan_plain (fun st hst => h st hst a g)

/-- the copy for member `y` holds a sender-key ciphertext, and a pairwise one exactly when `y` was addressed -/
theorem fan_copy {k : Ct} (y : Acct) (hk : k.kind = .skmsg) : ∀ {l : List (Option Acct × Ct)},
    (∀ e ∈ l, e.1.isSome = true ∧ e.2.kind ≠ .skmsg) → ∀ copy,
    copy = ((l ++ [((none : Option Acct), k)]).filter (fun e => e.1 == some y)).map (fun e => ((none : Option Acct), e.2)) ++
      (l ++ [(none, k)]).filter (fun e => e.1.isNone) →
    copy.any isSk = true ∧ copy.any (fun e => !isSk e) = (l ++ [(none, k)]).any (fun e => e.1 == some y) ∧
      copy.all isSk = (l ++ [(none, k)]).all (fun e => e.1 != some y) := by
  intro l
  induction l with
  | nil => intro _ copy e; subst e; simp [isSk, hk]
  | cons e t ih =>
    intro hl copy hc
    subst hc
    obtain ⟨h1, h2, h3⟩ := ih (fun e' he' => hl e' (List.mem_cons_of_mem _ he')) _ rfl
    obtain ⟨he1, he2⟩ := hl e List.mem_cons_self
    have hn : e.1.isNone = false := Bool.eq_false_iff.mpr (isSome_isNone he1)
    have hs : isSk ((none : Option Acct), e.2) = false := by simp [isSk, he2]
    simp only [List.cons_append, List.filter_cons, hn, Bool.false_eq_true, if_false]
    cases hP : e.1 == some y
    · simp only [Bool.false_eq_true, if_false, List.any_cons, List.all_cons, hP, Bool.false_or, bne, Bool.not_false, Bool.true_and]
      exact ⟨h1, h2, h3⟩
    · simp only [if_true, List.map_cons, List.cons_append, List.any_cons, List.all_cons, hs, hP, Bool.false_or, Bool.not_false,
        Bool.true_or, bne, Bool.not_true, Bool.false_and, and_self, and_true]
      exact h1

theorem cls_fan {id g : Nat} {a y : Acct} {im : Bool} {encs : List (Option Acct × Ct)} {pl : Option Payload}
    (hs : ShapeB (fun t => t.isSome = true) encs) (g' : Nat) (a' : Acct) :
    cls (isDistDown a' g') (needsDown a' g')
      (.msg id (.group g) (some a) im ((encs.filter (fun e => e.1 == some y)).map (fun e => (none, e.2)) ++ encs.filter (fun e => e.1.isNone)) pl)
    = if a' = a then cls (isDistUp g' y) (needsUp g' y) (.msg id (.group g) none im encs pl) else none := by
  obtain ⟨l, k, rfl, hk1, _, hl⟩ := hs
  obtain ⟨hany, hanyn, hall⟩ := fan_copy y hk1 (fun e he => ⟨(hl e he).1, (hl e he).2.1⟩) _ rfl
  by_cases ha : a' = a
  · subst ha
    simp only [if_true, cls, isDistDown, needsDown, isDistUp, needsUp, beq_self_eq_true, Bool.and_true, hany, hanyn, hall]
    rfl
  · have : (a == a') = false := by simp; exact fun e => ha e.symm
    simp [cls, isDistDown, needsDown, ha, this]

section
variable {accts : List Acct} {groups : List (Nat × List Acct)}

theorem not_msg {st : Stanza} (h : isMsg st = false) : ∀ id peer part im encs pl, st ≠ .msg id peer part im encs pl :=
  fun _ _ _ _ _ _ e => by rw [e] at h; cases h

theorem DownDec.plain {V : View} {y : Acct} {st : Stanza} (h : ∀ id peer part im encs pl, st ≠ .msg id peer part im encs pl) :
    DownDec V y st := by
  cases st with
  | msg id peer part im encs pl => exact absurd rfl (h id peer part im encs pl)
  | _ => trivial

theorem plainDown_nomsg {st : Stanza} (h : ∀ id peer part im encs pl, st ≠ .msg id peer part im encs pl) : PlainDown st :=
  PlainDown.of_not_group (fun id g a im encs pl => h id (.group g) (some a) im encs pl)

theorem plainUpK_nomsg {st : Stanza} (h : ∀ id peer part im encs pl, st ≠ .msg id peer part im encs pl) : PlainUpK st :=
  PlainUpK.of_not_group (fun id g im encs pl => h id (.group g) none im encs pl)

theorem srv_finish {s : Sys} {a : Acct} {st : Stanza} {rest : List Stanza} {add : Acct → List Stanza}
    (hD : DV groups (view s)) (hG : GV groups (view s)) (hq : queueOf s.inbound a = st :: rest)
    (hdown : ∀ b st', st' ∈ add b → DownDec (view s) b st')
    (hc1 : ∀ b st', st' ∈ add b → ∀ e ∈ (getClient s b).iqReg, ∀ n, e.2 = Cont.groupInfo n → stanzaIq st' = some e.1 →
      ∃ g, n.dest = .group g ∧ st' = .groupInfo e.1 g ((lookup groups g).getD []))
    (hadd : ∀ a' g y, y ∈ (lookup groups g).getD [] → y ≠ a' → scan (isDistDown a' g) (needsDown a' g) (add y) =
      if a' = a then cls (isDistUp g y) (needsUp g y) st else none) :
    DV groups (((view s).popIn a rest).pushes add) ∧ GV groups (((view s).popIn a rest).pushes add) :=
  ⟨hD.server_step ⟨hq, hdown, hc1⟩, hG.server hq hadd⟩

/-- a stanza queued for `b` that matters to no sender key, and answers a pending group query only as its answer -/
def PlainPush (groups : List (Nat × List Acct)) (V : View) (b : Acct) (st : Stanza) : Prop :=
  DownDec V b st ∧ PlainDown st ∧
  ∀ e ∈ (V.cl b).iqReg, ∀ n, e.2 = Cont.groupInfo n → stanzaIq st = some e.1 →
    ∃ g, n.dest = .group g ∧ st = .groupInfo e.1 g ((lookup groups g).getD [])

theorem PlainPush.nomsg {V : View} {b : Acct} {st : Stanza} (h : ∀ id peer part im encs pl, st ≠ .msg id peer part im encs pl)
    (hiq : ∀ e ∈ (V.cl b).iqReg, ∀ n, e.2 = Cont.groupInfo n → stanzaIq st = some e.1 →
      ∃ g, n.dest = .group g ∧ st = .groupInfo e.1 g ((lookup groups g).getD [])) : PlainPush groups V b st :=
  ⟨DownDec.plain h, plainDown_nomsg h, hiq⟩

theorem PlainPush.shapeA {V : View} {b : Acct} {id : Nat} {peer : Dest} {part : Option Acct} {im : Bool}
    {encs : List (Option Acct × Ct)} {pl : Option Payload} (hs : ShapeA encs)
    (hd : ∀ e ∈ encs, CtOK (V.cl (whoOf peer part)) (destGroup peer) e.2 ∧ PairOK V (whoOf peer part) b e.2) :
    PlainPush groups V b (.msg id peer part im encs pl) :=
  ⟨⟨Or.inl hs, hd⟩, plainDown_shapeA hs, fun _ _ _ _ e => by cases e⟩

theorem srv_plain {s : Sys} {a : Acct} {st : Stanza} {rest : List Stanza} {add : Acct → List Stanza}
    (hD : DV groups (view s)) (hG : GV groups (view s)) (hq : queueOf s.inbound a = st :: rest) (hup : PlainUpK st)
    (hadd : ∀ b st', st' ∈ add b → PlainPush groups (view s) b st') :
    DV groups (((view s).popIn a rest).pushes add) ∧ GV groups (((view s).popIn a rest).pushes add) :=
  srv_finish hD hG hq (fun b st' h => (hadd b st' h).1) (fun b st' h => (hadd b st' h).2.2)
    (fun a' g y _ _ => by rw [hup g y, scan_plainDown (fun st' h => (hadd y st' h).2.1)]; split <;> rfl)

theorem process_crypto (hnd : ∀ g ∈ groups, g.2.Nodup) {s : Sys} {a : Acct} {st : Stanza} {rest : List Stanza}
    (hA : AInv accts groups (abs s)) (hups : ∀ st' ∈ queueOf s.inbound a, UpShape st' ∧ upDir st')
    (hD : DV groups (view s)) (hG : GV groups (view s)) (hq : queueOf s.inbound a = st :: rest) :
    DV groups (view (serverProcess { s with inbound := insert s.inbound a rest } a st)) ∧
    GV groups (view (serverProcess { s with inbound := insert s.inbound a rest } a st)) := by
  have hmem' : st ∈ (view s).inb a := mem_head hq
  obtain ⟨ha, hu, _⟩ := hA.inb_ok a _ (mem_head hq)
  have hud := hD.up a st hmem'
  obtain ⟨hshape, hdir⟩ := hups st (mem_head hq)
  have hgrp : s.groups = groups := hA.grp
  cases st with
  | msg id dest part im encs pl =>
    obtain ⟨_, n, hn1, hn2, hn3, _, hpi⟩ := hu
    have hreg := hA.sub_reg a n hn1
    have hack : PlainPush groups (view s) a (.ack id 0) :=
      PlainPush.nomsg (not_msg rfl) (fun _ _ _ _ e => by cases e)
    cases dest with
    | user b =>
      obtain ⟨hpart, hsA⟩ : part = none ∧ ShapeA encs := hshape
      subst hpart
      have hint : intendedG groups a n = [b] := by simp [intendedG, hn3]
      have hregb : registered s b = true := (hA.reg b).mpr (hreg.2 b (by rw [hint]; simp))
      rw [view_process]
      simp only [served]
      rw [queuedFor_ack_fwd hregb, ShapeA_filter_direct hsA]
      exact srv_plain hD hG hq plainUpK_user
        (forall_append (forall_single hack) (forall_single (PlainPush.shapeA hsA fun e he => ⟨(hud e he).1, (hud e he).2 b rfl⟩)))
    | group g =>
      cases part with
      | some p =>
        have hsA : ShapeA encs := hshape
        have hregp : registered s p = true := (hA.reg p).mpr (hreg.2 p (hpi p rfl))
        rw [view_process]
        simp only [served]
        rw [queuedFor_ack_fwd hregp, ShapeA_filter_direct hsA]
        exact srv_plain hD hG hq plainUpK_some
          (forall_append (forall_single hack) (forall_single (PlainPush.shapeA hsA fun e he => ⟨(hud e he).1, (hud e he).2 p rfl⟩)))
      | none =>
        have hsB : ShapeB (fun t => t.isSome = true) encs := hshape
        rw [view_process_fan hnd hgrp]
        refine srv_finish hD hG hq
          (forall_append (forall_single hack.1) (forall_fan fun b' _ => ⟨Or.inr ⟨rfl, ShapeB_filter_direct b' hsB⟩, ?_⟩))
          (forall_append (forall_single hack.2.2) (forall_fan fun _ _ _ _ _ _ e => by cases e)) ?_
        · intro e he
          rcases List.mem_append.mp he with h2 | h2
          · obtain ⟨e0, he0, rfl⟩ := List.mem_map.mp h2
            have hm := List.mem_filter.mp he0
            exact ⟨(hud e0 hm.1).1, (hud e0 hm.1).2 b' (show e0.1 = some b' by simpa using hm.2)⟩
          · have hm := List.mem_filter.mp h2
            refine ⟨(hud e hm.1).1, ?_⟩
            -- a ciphertext without addressee is the sender-key ciphertext
            obtain ⟨l, k, rfl, hk1, _, hl⟩ := hsB
            rcases List.mem_append.mp hm.1 with h3 | h3
            · exact (isSome_isNone (hl e h3).1 hm.2).elim
            · rw [List.mem_singleton] at h3; subst h3
              intro hk; exact absurd hk1 hk
        · intro a' g' y hy hya
          rw [scan_append, scan_plainDown (forall_single (P := fun _ st' => PlainDown st') hack.2.1 y)]
          simp only
          by_cases hyt : y ∈ ((lookup groups g).getD []).filter (· != a)
          · rw [fan_of_mem hyt, scan_singleton, cls_fan hsB]
          · rw [fan_of_not_mem hyt]
            simp only [scan]
            by_cases ha' : a' = a
            · subst ha'
              rw [if_pos rfl]
              -- `y` is not a member of `g`, so the stanza is for another group
              have hgg : g ≠ g' := by
                intro e; subst e
                exact hyt (List.mem_filter.mpr ⟨hy, by simpa using hya⟩)
              have : (g == g') = false := by simpa using hgg
              simp [cls, isDistUp, needsUp, this]
            · rw [if_neg ha']
  | receipt id peer part t =>
    obtain ⟨a', _, peer', part', _, _, hv, _⟩ := view_process_receipt hA hq
    rw [hv]
    exact srv_plain hD hG hq (plainUpK_nomsg (not_msg rfl))
      (forall_append (forall_single (PlainPush.nomsg (not_msg rfl) (fun _ _ _ _ e => by cases e)))
        (forall_single (PlainPush.nomsg (not_msg rfl) (fun _ _ _ _ e => by cases e))))
  | ack id cls' =>
    rw [view_process]
    exact srv_plain hD hG hq (plainUpK_nomsg (not_msg rfl)) (fun b st' h => by cases h)
  | keys iq got => exact absurd hdir (by simp [upDir])
  | groupInfo iq g ms => exact absurd hdir (by simp [upDir])
  | getKeys iq jids =>
    rw [view_process]
    simp only [served, queuedFor_single]
    refine srv_plain hD hG hq (plainUpK_nomsg (not_msg rfl))
      (forall_single (PlainPush.nomsg (not_msg rfl) ?_))
    intro e he n' hn' hiq
    -- the request for this id would have to be a group query
    obtain ⟨g, _, h2, _⟩ := hD.c1 a e he n' hn'
    have := h2 _ hmem' (by simpa [stanzaIq] using hiq)
    cases this
  | getGroup iq g =>
    rw [view_process]
    simp only [served, queuedFor_single]
    refine srv_plain hD hG hq (plainUpK_nomsg (not_msg rfl))
      (forall_single (PlainPush.nomsg (not_msg rfl) ?_))
    intro e he n' hn' hiq
    obtain ⟨g', h1, h2, _⟩ := hD.c1 a e he n' hn'
    have hiq' : iq = e.1 := by simpa [stanzaIq] using hiq
    have := h2 _ hmem' (by simp [stanzaIq, hiq'])
    cases this
    refine ⟨g, h1, ?_⟩
    show Stanza.groupInfo e.1 g ((lookup s.groups g).getD []) = _
    rw [hgrp]

end

end Yow.E2E
