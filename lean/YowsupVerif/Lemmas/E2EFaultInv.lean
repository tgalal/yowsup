/-
  The invariant `FInv` of runs with faults: the token invariant of the flattened state (E2EFlat), decryptability and
  sender keys (E2EDecInv, E2EDecKeys), and what is known of dead stanzas; its preservation by client steps that open
  nothing, that keep their registered queries, that touch neither keys nor sessions.
-/
import YowsupVerif.Lemmas.E2EDecServer
import YowsupVerif.Lemmas.E2EFlatDeliver
namespace Yow.E2E

/-- a dead stanza was shown, and its (message, recipient) pair has used up its fault -/
def DeadOK (s : Sys) : Prop :=
  ∀ y st, st ∈ queueOf s.outbound y → dead (getClient s y) st = true →
    ∃ id peer part im encs pl, st = .msg id peer part im encs pl ∧ 1 ≤ shownC (getClient s y) id ∧ (id, y) ∈ s.faulted ∧
      ∀ a g, isDistDown a g st = true → (lookup (getClient s y).peerSK (g, a)).isSome = true

structure FInv (accts : List Acct) (groups : List (Nat × List Acct)) (s : Sys) : Prop where
  ainv : AInv accts groups (abs s)
  tv : TV false accts groups s.submitted (view (flat s))
  dv : DV groups (view s)
  gv : GV groups (view s)
  dead : DeadOK s

theorem DeadOK.mono {s s' : Sys} (h : DeadOK s) (hg : Grow s s') (hfl : ∀ p, p ∈ s.faulted → p ∈ s'.faulted)
    (hpk : ∀ y key, (lookup (getClient s y).peerSK key).isSome = true → (lookup (getClient s' y).peerSK key).isSome = true)
    (hq : ∀ y st, st ∈ queueOf s'.outbound y → dead (getClient s' y) st = true →
      st ∈ queueOf s.outbound y ∧ dead (getClient s y) st = true) : DeadOK s' := by
  intro y st hst hd
  obtain ⟨h1, h2⟩ := hq y st hst hd
  obtain ⟨id, peer, part, im, encs, pl, e, hs, hf, hp⟩ := h y st h1 h2
  exact ⟨id, peer, part, im, encs, pl, e, Nat.le_trans hs ((hg y).2.2 id), hfl _ hf, fun a g hd' => hpk y _ (hp a g hd')⟩

theorem deadOK_of_cl {s s' : Sys} {x : Acct} {cons rest : List Stanza} {c' : Client}
    (hd : DeadOK s) (hq : queueOf s.outbound x = cons ++ rest)
    (hcl : ∀ z, getClient s' z = if z = x then c' else getClient s z)
    (hout : ∀ z, queueOf s'.outbound z = if z = x then rest else queueOf s.outbound z)
    (hseen : c'.seen = (getClient s x).seen) (hseenSK : c'.seenSK = (getClient s x).seenSK)
    (hsh : ∀ id, shownC (getClient s x) id ≤ shownC c' id) (hfl : ∀ p, p ∈ s.faulted → p ∈ s'.faulted)
    (hpk : c'.peerSK = (getClient s x).peerSK) : DeadOK s' := by
  intro y st hst hdd
  rw [hout y] at hst
  rw [hcl y] at hdd ⊢
  by_cases hy : y = x
  · subst hy
    rw [if_pos rfl] at hst hdd ⊢
    rw [dead_congr hseen hseenSK] at hdd
    rw [hpk]
    obtain ⟨id, peer, part, im, encs, pl, e, h1, h2, h3⟩ := hd y st (by rw [hq]; exact List.mem_append_right _ hst) hdd
    exact ⟨id, peer, part, im, encs, pl, e, Nat.le_trans h1 (hsh id), hfl _ h2, h3⟩
  · rw [if_neg hy] at hst hdd ⊢
    obtain ⟨id, peer, part, im, encs, pl, e, h1, h2, h3⟩ := hd y st hst hdd
    exact ⟨id, peer, part, im, encs, pl, e, h1, hfl _ h2, h3⟩

theorem deadOK_of_view {s s' : Sys} {x : Acct} {cons rest : List Stanza} {c' : Client} {out : List Stanza} {k : Nat}
    (hd : DeadOK s) (hq : queueOf s.outbound x = cons ++ rest)
    (hv : view s' = ((view s).popOut x rest).cstep x c' out k)
    (hseen : c'.seen = (getClient s x).seen) (hseenSK : c'.seenSK = (getClient s x).seenSK)
    (hsh : ∀ id, shownC (getClient s x) id ≤ shownC c' id) (hfl : ∀ p, p ∈ s.faulted → p ∈ s'.faulted)
    (hpk : c'.peerSK = (getClient s x).peerSK) : DeadOK s' :=
  deadOK_of_cl hd hq (fun z => congrArg (fun V => V.cl z) hv) (fun z => congrArg (fun V => V.outb z) hv) hseen hseenSK hsh hfl hpk

section
variable {accts : List Acct} {groups : List (Nat × List Acct)}

/-- the inbound side of the flattened state is the physical one -/
theorem FInv.ups {s : Sys} (h : FInv accts groups s) (a : Acct) : ∀ st' ∈ queueOf s.inbound a, UpShape st' ∧ upDir st' :=
  fun st' hst' => ⟨(h.tv.ups a st' hst').shape, (h.tv.ups a st' hst').dir⟩

/-- what decryptability asks of a query `e` that is registered at `x` after a step -/
def RegOK (groups : List (Nat × List Acct)) (V : View) (x : Acct) (rest : List Stanza) (c' : Client) (out : List Stanza)
    (e : Nat × Cont) : Prop :=
  (∀ p q, e.2 ≠ Cont.keysForPending p q) ∧
  (∀ n, e.2 = Cont.groupInfo n → ∃ g, n.dest = .group g ∧
    (∀ st ∈ V.inb x ++ out, stanzaIq st = some e.1 → st = .getGroup e.1 g) ∧
    (∀ st ∈ rest, stanzaIq st = some e.1 → st = .groupInfo e.1 g ((lookup groups g).getD []))) ∧
  (∀ n all asked, e.2 = Cont.keysForGroup n all asked → ∃ g, n.dest = .group g ∧
    all = ((lookup groups g).getD []).filter (· != x) ∧ ∀ j ∈ all, (lookup c'.sessions j).isSome = true ∨ j ∈ asked)

/-- a query that stays registered is fine as it was if no emitted stanza bears its number: only new queries are to be checked -/
theorem DV.client_step_reg {V : View} {x : Acct} {cons rest : List Stanza} {c' : Client} {out : List Stanza} {k : Nat}
    (h : DV groups V) (hq : V.outb x = cons ++ rest) (mono : CMonoC (V.cl x) c')
    (d2 : ∀ j se, lookup c'.sessions j = some se → se.pendingPre = false →
      lookup (V.cl x).sessions j = some se ∨ (j ≠ x ∧ known (V.cl j) x se.cur))
    (g2 : ∀ g z gen, lookup c'.peerSK (g, z) = some gen →
      lookup (V.cl x).peerSK (g, z) = some gen ∨ (z ≠ x ∧ lookup (V.cl z).ownSK g = some gen))
    (hpend : c'.pendingIn = (V.cl x).pendingIn)
    (outOK : ∀ st ∈ out, UpDec ((V.popOut x rest).cstep x c' out k) x st)
    (hiq : ∀ e ∈ c'.iqReg, (e ∈ (V.cl x).iqReg ∧ ∀ st ∈ out, stanzaIq st ≠ some e.1) ∨ RegOK groups V x rest c' out e) :
    DV groups ((V.popOut x rest).cstep x c' out k) := by
  have hreg : ∀ e ∈ c'.iqReg, RegOK groups V x rest c' out e := by
    intro e he
    rcases hiq e he with ⟨h1, hfresh⟩ | h1
    · refine ⟨(h.p0 x).2 e h1, fun n hn => ?_, fun n al aq hn => ?_⟩
      · obtain ⟨g, g1, g2, g3⟩ := h.c1 x e h1 n hn
        refine ⟨g, g1, fun st hst hi => ?_, fun st hst hi => g3 st (hq ▸ List.mem_append_right _ hst) hi⟩
        rcases List.mem_append.mp hst with h2 | h2
        · exact g2 st h2 hi
        · exact absurd hi (hfresh st h2)
      · obtain ⟨g, g1, g2, g3⟩ := h.c2 x e h1 n al aq hn
        refine ⟨g, g1, g2, fun j hj => (g3 j hj).imp_left fun hs => ?_⟩
        -- a session that was there is still there: what it opens can still be opened
        obtain ⟨se, hl⟩ := Option.isSome_iff_exists.mp hs
        obtain ⟨se', hl', _⟩ := mono.1 j se.cur (known_cur hl)
        rw [hl']; rfl
    · exact h1
  exact h.client_step {
    hq := hq
    mono := mono
    d2 := d2
    g2 := g2
    p0 := ⟨hpend ▸ (h.p0 x).1, fun e he => (hreg e he).1⟩
    outOK := outOK
    c1 := fun e he => (hreg e he).2.1
    c2 := fun e he => (hreg e he).2.2 }

theorem DV.client_keep {V : View} {x : Acct} {cons rest : List Stanza} {c' : Client} {out : List Stanza} {k : Nat}
    (h : DV groups V) (hq : V.outb x = cons ++ rest) (mono : CMonoC (V.cl x) c')
    (d2 : ∀ j se, lookup c'.sessions j = some se → se.pendingPre = false → lookup (V.cl x).sessions j = some se)
    (_smono : ∀ j, (lookup (V.cl x).sessions j).isSome = true → (lookup c'.sessions j).isSome = true)
    (hp : c'.peerSK = (V.cl x).peerSK) (hpend : c'.pendingIn = (V.cl x).pendingIn)
    (outOK : ∀ st ∈ out, UpDec ((V.popOut x rest).cstep x c' out k) x st)
    (hiq : ∀ e ∈ c'.iqReg, (e ∈ (V.cl x).iqReg ∧ ∀ st ∈ out, stanzaIq st ≠ some e.1) ∨ RegOK groups V x rest c' out e) :
    DV groups ((V.popOut x rest).cstep x c' out k) :=
  h.client_step_reg hq mono (fun j se hl hpp => Or.inl (d2 j se hl hpp)) (fun g z gen hl => Or.inl (hp ▸ hl)) hpend outOK hiq

theorem DV.neutral {V : View} {x : Acct} {cons rest : List Stanza} {c' : Client} {out : List Stanza} {k : Nat}
    (h : DV groups V) (hq : V.outb x = cons ++ rest)
    (hs : c'.sessions = (V.cl x).sessions) (hp : c'.peerSK = (V.cl x).peerSK) (ho : c'.ownSK = (V.cl x).ownSK)
    (hpend : c'.pendingIn = (V.cl x).pendingIn)
    (hiq : ∀ e ∈ c'.iqReg, e ∈ (V.cl x).iqReg ∨
      ((∀ n, e.2 ≠ Cont.groupInfo n) ∧ (∀ n al aq, e.2 ≠ Cont.keysForGroup n al aq) ∧ ∀ p q, e.2 ≠ Cont.keysForPending p q))
    (hout : ∀ st ∈ out, (∀ id peer part im encs pl, st ≠ .msg id peer part im encs pl) ∧
      ∀ e ∈ (V.cl x).iqReg, stanzaIq st ≠ some e.1) :
    DV groups ((V.popOut x rest).cstep x c' out k) := by
  refine h.client_keep hq ⟨fun j σ hk => known_of_sessions hs hk, fun g gen hg => ho ▸ hg⟩
    (fun j se hl _ => hs ▸ hl) (fun j hj => hs ▸ hj) hp hpend ?_ ?_
  · intro st hst
    cases st with
    | msg id peer part im encs pl => exact absurd rfl ((hout _ hst).1 id peer part im encs pl)
    | _ => trivial
  · intro e he
    rcases hiq e he with h1 | h1
    · exact Or.inl ⟨h1, fun st hst => (hout st hst).2 e h1⟩
    · exact Or.inr ⟨h1.2.2, fun n hn => absurd hn (h1.1 n), fun n al aq hn => absurd hn (h1.2.1 n al aq)⟩

theorem GV.neutral {V : View} {x : Acct} {cons rest : List Stanza} {c' : Client} {out : List Stanza} {k : Nat}
    (h : GV groups V) (hq : V.outb x = cons ++ rest)
    (hp : c'.peerSK = (V.cl x).peerSK) (ho : c'.ownSK = (V.cl x).ownSK)
    (hcons : ∀ st ∈ cons, ∀ id peer part im encs pl, st ≠ .msg id peer part im encs pl)
    (hout : ∀ st ∈ out, ∀ id peer part im encs pl, st ≠ .msg id peer part im encs pl) :
    GV groups ((V.popOut x rest).cstep x c' out k) :=
  h.client_plain hq (fun st hst => plainDown_nomsg (hcons st hst)) (fun st hst => plainUpK_nomsg (hout st hst))
    (fun key hk => by rw [hp]; exact hk) (fun g hg => by rw [ho] at hg; exact hg)

end

end Yow.E2E
