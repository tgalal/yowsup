/-
  Client steps that touch neither keys nor sessions (receipts, acks, answers nobody waits for, restart) keep the parts of
  `FInv` (E2EFaultInv) about decryptability and dead stanzas.
-/
import YowsupVerif.Lemmas.E2EFaultInv
namespace Yow.E2E

/-- a change of a client record (with emitted stanzas) that does not matter for decryptability -/
structure Neutral (c c' : Client) (out : List Stanza) : Prop where
  sessions : c'.sessions = c.sessions
  peerSK : c'.peerSK = c.peerSK
  ownSK : c'.ownSK = c.ownSK
  pend : c'.pendingIn = c.pendingIn
  seen : c'.seen = c.seen
  seenSK : c'.seenSK = c.seenSK
  shown : c'.shown = c.shown
  iq : ∀ e ∈ c'.iqReg, e ∈ c.iqReg ∨
    ((∀ n, e.2 ≠ Cont.groupInfo n) ∧ (∀ n al aq, e.2 ≠ Cont.keysForGroup n al aq) ∧ ∀ p q, e.2 ≠ Cont.keysForPending p q)
  out : ∀ st ∈ out, (∀ id peer part im encs pl, st ≠ .msg id peer part im encs pl) ∧
    (stanzaIq st = none ∨ stanzaIq st = some c.nextIq)

theorem Neutral.rfl' (c : Client) : Neutral c c [] :=
  ⟨rfl, rfl, rfl, rfl, rfl, rfl, rfl, fun e he => Or.inl he, fun st hst => by cases hst⟩

section
variable {accts : List Acct} {groups : List (Nat × List Acct)}

theorem neutral_step {s s' : Sys} {x : Acct} {cons rest : List Stanza} {c' : Client} {out : List Stanza}
    (h : FInv accts groups s) (hq : queueOf s.outbound x = cons ++ rest)
    (hcons : ∀ st ∈ cons, ∀ id peer part im encs pl, st ≠ .msg id peer part im encs pl)
    (hv : view s' = ((view s).popOut x rest).cstep x c' out (view s).nextCtr)
    (hn : Neutral (getClient s x) c' out) (hfl : ∀ p, p ∈ s.faulted → p ∈ s'.faulted) :
    DV groups (view s') ∧ GV groups (view s') ∧ DeadOK s' := by
  rw [hv]
  refine ⟨h.dv.neutral hq hn.sessions hn.peerSK hn.ownSK hn.pend hn.iq ?_,
    h.gv.neutral hq hn.peerSK hn.ownSK hcons (fun st hst => (hn.out st hst).1),
    deadOK_of_view h.dead hq hv hn.seen hn.seenSK (CGrow.of_eq hn.seen hn.seenSK hn.shown).2.2 hfl hn.peerSK⟩
  -- a query emitted now bears the next number, above those of the registered ones
  intro st hst
  refine ⟨(hn.out st hst).1, fun e he e' => ?_⟩
  rcases (hn.out st hst).2 with h1 | h1
  · rw [h1] at e'; cases e'
  · have hlt : e.1 < (getClient s x).nextIq := (h.ainv.client x).iq_lt e.1 e.2 he
    have : (getClient s x).nextIq = e.1 := Option.some.inj (h1.symm.trans e')
    omega

theorem onReceipt_neutral {s : Sys} {a : Acct} (ha : a ∈ (view s).accounts) (id : Nat) (peer : Dest) (part : Option Acct) (t : RType) :
    ∃ c' out, RStep s (onReceipt s a id peer part t) a c' out ∧ Neutral (getClient s a) c' out := by
  -- passing the receipt on: it is recorded and acknowledged
  have hb : ∀ (s1 : Sys) (c1 : Client), a ∈ (view s1).accounts → getClient s1 a = c1 →
      RStep s1 (emit (setClient s1 a { getClient s1 a with receipts := (getClient s1 a).receipts ++ [(id, peer, part, t)] }) a (.ack id 1)) a
        { c1 with receipts := c1.receipts ++ [(id, peer, part, t)] } [.ack id 1] := by
    intro s1 c1 h1 hc
    subst hc
    exact rstep_set_emit _ h1 _
  have hack : ∀ st ∈ [Stanza.ack id 1], (∀ id peer part im encs pl, st ≠ .msg id peer part im encs pl) ∧
      (stanzaIq st = none ∨ stanzaIq st = some (getClient s a).nextIq) := by
    intro st hst
    rw [List.mem_singleton] at hst; subst hst
    exact ⟨not_msg rfl, Or.inl rfl⟩
  unfold onReceipt
  dsimp only
  split
  · exact ⟨_, _, hb s _ ha rfl, ⟨rfl, rfl, rfl, rfl, rfl, rfl, rfl, fun e he => Or.inl he, hack⟩⟩
  · next n hn =>
    -- the message leaves the sent queue (unless a participant of a group answers): nothing else changes
    generalize hc1 : (if part.isSome = true then getClient s a
      else { getClient s a with sentQueue := (getClient s a).sentQueue.filter (fun m => m.id != id) }) = c1
    obtain ⟨q, rfl⟩ : ∃ q, c1 = { getClient s a with sentQueue := q } := by
      rw [← hc1]; split <;> exact ⟨_, rfl⟩
    have r0 := rstep_setClient (s := s) { getClient s a with sentQueue := q } ha
    have hacc1 : a ∈ (view (setClient s a { getClient s a with sentQueue := q })).accounts := by rw [r0.acc]; exact ha
    cases t with
    | delivery =>
      dsimp only
      exact ⟨_, _, r0.trans (hb _ _ hacc1 r0.cl), ⟨rfl, rfl, rfl, rfl, rfl, rfl, rfl, fun e he => Or.inl he, hack⟩⟩
    | retry count =>
      dsimp only
      have r1 := rstep_emit (setClient s a { getClient s a with sentQueue := q }) a (.ack id 1)
      rw [r0.cl] at r1
      refine ⟨_, _, (r0.trans r1).trans (view_sendIq _ a _ _ _ (by rw [r1.acc]; exact hacc1)), ?_⟩
      rw [show getClient (emit (setClient s a { getClient s a with sentQueue := q }) a (.ack id 1)) a = _ from r0.cl]
      refine ⟨rfl, rfl, rfl, rfl, rfl, rfl, rfl, ?_, ?_⟩
      · intro e he
        rcases List.mem_append.mp he with h1 | h1
        · exact Or.inl h1
        · rw [List.mem_singleton] at h1; subst h1
          exact Or.inr ⟨fun _ => Cont.noConfusion, fun _ _ _ => Cont.noConfusion, fun _ _ => Cont.noConfusion⟩
      · intro st hst
        rcases List.mem_cons.mp hst with rfl | hst
        · exact hack _ List.mem_cons_self
        · cases List.mem_singleton.mp hst
          exact ⟨not_msg rfl, Or.inr rfl⟩

end

end Yow.E2E
