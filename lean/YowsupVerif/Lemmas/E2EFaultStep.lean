/-
  Every allowed step keeps the invariant of runs with faults (E2EFaultInv): decryptability and sender keys whatever was
  submitted (`crypto_step`), the token part through the simulation by the flattened run while the sent queue holds every
  message (`finv_step`).
-/
import YowsupVerif.Lemmas.E2EDecMsg
import YowsupVerif.Lemmas.E2EFaultNeutral
namespace Yow.E2E

theorem clientReceive_frame (s : Sys) (y : Acct) (st : Stanza) :
    (clientReceive s y st).outbound = s.outbound ∧ (clientReceive s y st).faulted = s.faulted :=
  outbound_eq_of_frame (f := fun s => clientReceive s y st) (fun s o fl => clientReceive_wo s o fl y st) s

theorem allowed_fault {s : Sys} {y : Acct} {f : Fault} {st : Stanza} {rest : List Stanza} (hq : queueOf s.outbound y = st :: rest)
    (hall : Allowed s (.deliver y f) = true) :
    f = .none ∨ ∃ id peer part im encs pl, st = .msg id peer part im encs pl ∧ (id, y) ∉ s.faulted := by
  simp only [Allowed, hq] at hall
  cases f with
  | none => exact Or.inl rfl
  | dup =>
    cases st with
    | msg id peer part im encs pl => exact Or.inr ⟨id, peer, part, im, encs, pl, rfl, by simpa using hall⟩
    | _ => cases hall
  | corrupt =>
    cases st with
    | msg id peer part im encs pl => exact Or.inr ⟨id, peer, part, im, encs, pl, rfl, by simpa using hall⟩
    | _ => cases hall

section
variable {accts : List Acct} {groups : List (Nat × List Acct)}

theorem deliver_cases {s : Sys} (h : FInv accts groups s) {y : Acct} {f : Fault} (hall : Allowed s (.deliver y f) = true) :
    ∃ st rest, queueOf s.outbound y = st :: rest ∧
      (((∀ id peer part im encs pl, st ≠ .msg id peer part im encs pl) ∧ f = .none) ∨
        ∃ id peer part im encs pl, st = .msg id peer part im encs pl ∧
          ((dead (getClient s y) st = true ∧ f = .none) ∨ dead (getClient s y) st = false)) := by
  cases hq : queueOf s.outbound y with
  | nil => simp only [Allowed, hq] at hall; cases f <;> cases hall
  | cons st rest =>
    refine ⟨st, rest, rfl, ?_⟩
    by_cases hm : ∃ id peer part im encs pl, st = .msg id peer part im encs pl
    · obtain ⟨id, peer, part, im, encs, pl, rfl⟩ := hm
      refine Or.inr ⟨id, peer, part, im, encs, pl, rfl, ?_⟩
      cases hd : dead (getClient s y) (.msg id peer part im encs pl) with
      | false => exact Or.inr rfl
      | true =>
        -- a dead copy has used up its fault
        rcases allowed_fault hq hall with rfl | ⟨_, _, _, _, _, _, e, hnf⟩
        · exact Or.inl ⟨rfl, rfl⟩
        · cases e
          obtain ⟨_, _, _, _, _, _, e', _, hfa, _⟩ := h.dead y _ (mem_head hq) hd
          cases e'
          exact absurd hfa hnf
    · have hnm : ∀ id peer part im encs pl, st ≠ .msg id peer part im encs pl :=
        fun id peer part im encs pl e => hm ⟨id, peer, part, im, encs, pl, e⟩
      rcases allowed_fault hq hall with rfl | ⟨id, peer, part, im, encs, pl, e, _⟩
      · exact Or.inl ⟨hnm, rfl⟩
      · exact absurd e (hnm id peer part im encs pl)

theorem view_of_rstep {s s' : Sys} {y : Acct} {rest : List Stanza} {c' : Client} {out : List Stanza}
    (hr : RStep { s with outbound := insert s.outbound y rest } s' y c' out) :
    view s' = ((view s).popOut y rest).cstep y c' out (view s).nextCtr := by
  unfold RStep at hr
  rw [view_setOutbound] at hr
  exact hr

theorem view_recv {s0 : Sys} {W : View} (hW : view s0 = W) {y : Acct} (hy : y ∈ W.accounts) {id : Nat} {peer : Dest}
    {part : Option Acct} {im : Bool} {encs : List (Option Acct × Ct)} {pl : Option Payload} (hne : encs.isEmpty = false) :
    view (clientReceive s0 y (.msg id peer part im encs pl)) =
      W.cstep y (heC (W.cl y) id peer part im encs pl).1 (heC (W.cl y) id peer part im encs pl).2 W.nextCtr := by
  subst hW
  rw [clientReceive_msg s0 y hne]
  exact rstep_handleEnc hy id peer part im encs pl

theorem deliver_other_crypto {s : Sys} (h : FInv accts groups s) {y : Acct} {st : Stanza} {rest : List Stanza}
    (hq : queueOf s.outbound y = st :: rest) (hnm : ∀ id peer part im encs pl, st ≠ .msg id peer part im encs pl) :
    DV groups (view (clientReceive { s with outbound := insert s.outbound y rest } y st)) ∧
    GV groups (view (clientReceive { s with outbound := insert s.outbound y rest } y st)) ∧
    DeadOK (clientReceive { s with outbound := insert s.outbound y rest } y st) := by
  have hmem := mem_head hq
  obtain ⟨hy, hd, hl⟩ := h.ainv.outb_ok y st hmem
  have hacc : y ∈ (view { s with outbound := insert s.outbound y rest }).accounts := h.acc hy
  have hcons : ∀ st' ∈ [st], ∀ id peer part im encs pl, st' ≠ .msg id peer part im encs pl := by
    intro st' hst'; rw [List.mem_singleton] at hst'; subst hst'; exact hnm
  -- a step of `y` that touches neither keys nor sessions
  have fin : ∀ {s' : Sys} {c' : Client} {out : List Stanza}, RStep { s with outbound := insert s.outbound y rest } s' y c' out →
      Neutral (getClient s y) c' out → s'.faulted = s.faulted → DV groups (view s') ∧ GV groups (view s') ∧ DeadOK s' :=
    fun hr hn hf => neutral_step h hq hcons (view_of_rstep hr) hn (fun p hp => by rw [hf]; exact hp)
  have hidle := fin (RStep.refl' { s with outbound := insert s.outbound y rest } y) (Neutral.rfl' _) rfl
  -- the answer to a query, if it is still waited for, names everybody asked for, and the group's members
  have hiq : ∀ iq got ms, (∀ k0, lookup (getClient s y).iqReg iq = some k0 → (∀ j, j ∈ asked k0 → j ∈ got) ∧
        ∀ n, k0 = Cont.groupInfo n → ∃ g, n.dest = .group g ∧ ms = (lookup groups g).getD []) →
      DV groups (view (onIqResult { s with outbound := insert s.outbound y rest } y iq got ms)) ∧
      GV groups (view (onIqResult { s with outbound := insert s.outbound y rest } y iq got ms)) ∧
      DeadOK (onIqResult { s with outbound := insert s.outbound y rest } y iq got ms) := by
    intro iq got ms hk
    cases hl' : lookup (getClient s y).iqReg iq with
    | none => rw [onIqResult_none (s := { s with outbound := insert s.outbound y rest }) got ms hl']; exact hidle
    | some k0 => exact onIqResult_crypto h hy hq hnm hl' (hk k0 hl').1 (hk k0 hl').2
  cases st with
  | msg id peer part im encs pl => exact absurd rfl (hnm id peer part im encs pl)
  | receipt id peer part t =>
    obtain ⟨c', out, hr, hn⟩ := onReceipt_neutral hacc id peer part t
    exact fin hr hn (clientReceive_frame _ y (.receipt id peer part t)).2
  | ack id k => exact hidle
  | getKeys iq j => exact hidle
  | getGroup iq g => exact hidle
  | keys iq got =>
    refine hiq iq got [] (fun k0 hk => ⟨(hl iq rfl).2 k0 hk, fun n hn => ?_⟩)
    subst hn
    obtain ⟨g, _, _, g3⟩ := h.dv.c1 y (iq, .groupInfo n) (lookup_mem hk) n rfl
    cases g3 _ hmem rfl
  | groupInfo iq g ms =>
    refine hiq iq [] ms (fun k0 hk => ⟨(hl iq rfl).2 k0 hk, fun n hn => ?_⟩)
    subst hn
    obtain ⟨g', g1, _, g3⟩ := h.dv.c1 y (iq, .groupInfo n) (lookup_mem hk) n rfl
    cases g3 _ hmem rfl
    exact ⟨g, g1, rfl⟩

theorem deadOK_deliver {s s' : Sys} (hd : DeadOK s) (hg : Grow s s') (hfl : ∀ p, p ∈ s.faulted → p ∈ s'.faulted)
    (hpk : ∀ z key, (lookup (getClient s z).peerSK key).isSome = true → (lookup (getClient s' z).peerSK key).isSome = true)
    (hsub : ∀ z st, st ∈ queueOf s'.outbound z → st ∈ queueOf s.outbound z)
    (hnew : ∀ z st, st ∈ queueOf s'.outbound z → dead (getClient s z) st = false → dead (getClient s' z) st = true →
      ∃ id peer part im encs pl, st = .msg id peer part im encs pl ∧ 1 ≤ shownC (getClient s' z) id ∧ (id, z) ∈ s'.faulted ∧
        ∀ a g, isDistDown a g st = true → (lookup (getClient s' z).peerSK (g, a)).isSome = true) : DeadOK s' := by
  intro z st hst hdd
  cases h0 : dead (getClient s z) st with
  | false => exact hnew z st hst h0 hdd
  | true =>
    obtain ⟨id, peer, part, im, encs, pl, e, hs, hf, hp⟩ := hd z st (hsub z st hst) h0
    exact ⟨id, peer, part, im, encs, pl, e, Nat.le_trans hs ((hg z).2.2 id), hfl _ hf, fun a g hd' => hpk z _ (hp a g hd')⟩

section Msg
variable {s : Sys} {y : Acct} {id : Nat} {peer : Dest} {part : Option Acct} {im : Bool}
  {encs : List (Option Acct × Ct)} {pl : Option Payload} {rest : List Stanza}

theorem deliver_dead_FInv (h : FInv accts groups s)
    (hq : queueOf s.outbound y = .msg id peer part im encs pl :: rest) (hw : WFConfig accts groups)
    (hdead : dead (getClient s y) (.msg id peer part im encs pl) = true) :
    FInv accts groups (step s (.deliver y .none)) := by
  have hmem := mem_head hq
  have hdd := h.dv.down y _ hmem
  obtain ⟨hy, _, _⟩ := down_origin h hmem
  obtain ⟨id', peer', part', im', encs'', pl', e, hsh, hfa, hpk⟩ := h.dead y _ hmem hdead
  cases e
  have hne := hdd.1.nonempty
  -- the recipient finds what it would open first opened already
  have h1 : ∀ ct, heFirst encs = some ct → decrypt (getClient s y) (whoOf peer part) ct = (getClient s y, .duplicate) := by
    intro ct hct
    obtain ⟨e, he, rfl⟩ := heFirst_mem hct
    exact decrypt_dup (heFirst_kind hct) (hdd.2 e he).1.uncorrupt ((dead_iff_seen hct).mp hdead)
      (first_ok h hmem (Or.inl rfl) e.2 hct).1
  have h2 : heFirst encs = none → ∃ g k, peer = .group g ∧ firstKind encs .skmsg = some k ∧
      groupDecrypt (getClient s y) g (whoOf peer part) k = (getClient s y, .duplicate) := by
    intro hf
    rcases hdd.1.found with ⟨ct, hct, _⟩ | ⟨g, k, rfl, hfk, _, _⟩
    · rw [hf] at hct; cases hct
    · obtain ⟨e, he, rfl⟩ := firstKind_mem hfk
      exact ⟨g, e.2, rfl, hfk, groupDecrypt_dup (sk_known h hq hf hfk) (hdd.2 e he).1.uncorrupt
        ((dead_iff_seenSK hf hfk).mp hdead)⟩
  have e0 := step_deliver_pop hq
  have hfl : (step s (.deliver y .none)).faulted = s.faulted := by rw [e0]; exact (clientReceive_frame _ y _).2
  rw [clientReceive_msg _ y hne] at e0
  have hv := view_of_rstep (handleEnc_dead (s := { s with outbound := insert s.outbound y rest }) (h.acc hy) id peer part im encs pl h1 h2)
  rw [← e0] at hv
  have hout : ∀ st ∈ [Stanza.receipt id peer part .delivery], (∀ id peer part im encs pl, st ≠ .msg id peer part im encs pl) ∧
      stanzaIq st = none := by
    intro st hst; rw [List.mem_singleton] at hst; subst hst
    exact ⟨not_msg rfl, rfl⟩
  refine ⟨step_inv h.ainv (by simp only [Allowed, hq]), sim_deliver_dead hw h.ainv h.tv hq hdead hne hsh h1 h2, ?_, ?_, ?_⟩
  · rw [hv]
    exact h.dv.neutral (x := y) (cons := [.msg id peer part im encs pl]) hq rfl rfl rfl rfl (fun e he => Or.inl he)
      (fun st hst => ⟨(hout st hst).1, fun e _ => by rw [(hout st hst).2]; exact fun e => by cases e⟩)
  · rw [hv]
    exact h.gv.deliver false hq (fun st hst => plainUpK_nomsg (hout st hst).1) (fun _ hk => hk) (fun _ hg => hg) hpk
  · exact deadOK_of_view (cons := [.msg id peer part im encs pl]) h.dead hq hv rfl rfl (fun _ => Nat.le_refl _)
      (fun p hp => by rw [hfl]; exact hp) rfl

/-- A live message stanza reaches `y`, as it is or damaged (`encs'`), in a state `s0` in which `y`'s queue is `rest` or
    (`keep`) still has the stanza at its head. -/
theorem recv_live {s0 : Sys} (h : FInv accts groups s)
    (hq : queueOf s.outbound y = .msg id peer part im encs pl :: rest)
    (hlive : dead (getClient s y) (.msg id peer part im encs pl) = false)
    {encs' : List (Option Acct × Ct)} (hmode : encs' = encs ∨ encs' = corruptLast encs) (hne : encs'.isEmpty = false) (keep : Bool)
    (hW : view s0 = (view s).popOut y (if keep then .msg id peer part im encs pl :: rest else rest)) :
    (DV groups (view (clientReceive s0 y (.msg id peer part im encs' pl))) ∧
      GV groups (view (clientReceive s0 y (.msg id peer part im encs' pl)))) ∧
    (∀ z key, (lookup (getClient s z).peerSK key).isSome = true →
      (lookup (getClient (clientReceive s0 y (.msg id peer part im encs' pl)) z).peerSK key).isSome = true) ∧
    getClient (clientReceive s0 y (.msg id peer part im encs' pl)) y = (heC (getClient s y) id peer part im encs' pl).1 := by
  obtain ⟨hy, _, _⟩ := down_origin h (mem_head hq)
  have hv := view_recv hW (h.acc hy) (id := id) (peer := peer) (part := part) (im := im) (pl := pl) hne
  obtain ⟨m1, m2, m4, _⟩ := msg_crypto h hq hlive hmode keep
  refine ⟨by rw [hv]; exact ⟨m1, m2⟩, fun z key hk => ?_, (getClient_of_view hv y).trans (if_pos rfl)⟩
  rw [getClient_of_view hv z]
  split
  · next e => subst e; exact m4 key hk
  · exact hk

/-- `s'`: the state after a live message stanza reached its recipient, as it is or damaged; `F`: the fault record by then.
    That no queued stanza died (`hkeep`) is the matter of the simulation. -/
theorem deadOK_deliver_pop {s' : Sys} (h : FInv accts groups s)
    (hq : queueOf s.outbound y = .msg id peer part im encs pl :: rest)
    (hlive : dead (getClient s y) (.msg id peer part im encs pl) = false)
    {encs' : List (Option Acct × Ct)} (hmode : encs' = encs ∨ encs' = corruptLast encs) (hne : encs'.isEmpty = false)
    {F : List (Nat × Acct)} (hF : ∀ p, p ∈ s.faulted → p ∈ F)
    (e0 : s' = clientReceive { s with outbound := insert s.outbound y rest, faulted := F } y (.msg id peer part im encs' pl))
    (hkeep : ∀ z st, st ∈ queueOf (insert s.outbound y rest) z → dead (getClient s z) st = false → dead (getClient s' z) st = false) :
    DeadOK s' := by
  obtain ⟨hob, hfl⟩ := clientReceive_frame { s with outbound := insert s.outbound y rest, faulted := F } y
    (.msg id peer part im encs' pl)
  have hgrow := Grow.clientReceive { s with outbound := insert s.outbound y rest, faulted := F } y (.msg id peer part im encs' pl)
  have hpk := (recv_live (s0 := { s with outbound := insert s.outbound y rest, faulted := F }) h hq hlive hmode hne false
    (view_setOutbound s y rest)).2.1
  rw [← e0] at hob hfl hgrow hpk
  refine deadOK_deliver h.dead hgrow (fun p hp => by rw [hfl]; exact hF p hp) hpk
    (fun z st hst => mem_queueOf_pop hq (by rw [hob] at hst; exact hst)) ?_
  intro z st hst h0 h1
  rw [hob] at hst
  rw [hkeep z st hst h0] at h1
  cases h1

/-- the copy a duplicated delivery leaves at the head of the queue is the one stanza that became dead -/
theorem deliver_live_dup (h : FInv accts groups s)
    (hq : queueOf s.outbound y = .msg id peer part im encs pl :: rest)
    (hw : WFConfig accts groups) (hlen : s.submitted.length ≤ 100)
    (hlive : dead (getClient s y) (.msg id peer part im encs pl) = false) :
    TV false accts groups (step s (.deliver y .dup)).submitted (view (flat (step s (.deliver y .dup)))) ∧
    DeadOK (step s (.deliver y .dup)) := by
  have hmem := mem_head hq
  obtain ⟨hy, _, _⟩ := down_origin h hmem
  have hne := (h.dv.down y _ hmem).1.nonempty
  have e0 : step s (.deliver y .dup) = clientReceive { s with faulted := s.faulted ++ [(id, y)] } y (.msg id peer part im encs pl) := by
    simp only [step, hq]
  obtain ⟨hob, hfl⟩ := clientReceive_frame { s with faulted := s.faulted ++ [(id, y)] } y (.msg id peer part im encs pl)
  have hgrow := Grow.clientReceive { s with faulted := s.faulted ++ [(id, y)] } y (.msg id peer part im encs pl)
  obtain ⟨_, hpk, hcy⟩ := recv_live (s0 := { s with faulted := s.faulted ++ [(id, y)] }) h hq hlive (Or.inl rfl) hne true
    ((View.popOut_self' (view s) y).symm.trans (congrArg ((view s).popOut y) hq))
  rw [← e0] at hob hfl hgrow hpk hcy
  obtain ⟨_, _, _, m5, _⟩ := msg_crypto h hq hlive (Or.inl rfl) true
  obtain ⟨o1, o2, _⟩ := msg_opened h hq hlive
  have hdead' : dead (getClient (clientReceive s y (.msg id peer part im encs pl)) y) (.msg id peer part im encs pl) = true := by
    rw [clientReceive_msg s y hne, (rstep_handleEnc (h.acc hy) id peer part im encs pl).cl]
    exact o1
  obtain ⟨hTV, hkeep⟩ := sim_deliver_dup hw h.ainv h.tv hlen hq hlive hdead'
  refine ⟨hTV, deadOK_deliver h.dead hgrow (fun p hp => by rw [hfl]; exact List.mem_append_left _ hp) hpk
    (fun z st hst => by rw [hob] at hst; exact hst) ?_⟩
  intro z st hst h0 h1
  rw [hob] at hst
  by_cases hin : st ∈ queueOf (insert s.outbound y rest) z
  · rw [hkeep z st hin h0] at h1
    cases h1
  · rw [queueOf_insert] at hin
    by_cases hz : z = y
    · subst hz
      rw [if_pos rfl] at hin
      rw [hq] at hst
      rcases List.mem_cons.mp hst with e | e
      · subst e
        exact ⟨id, peer, part, im, encs, pl, rfl, by rw [hcy]; exact o2,
          by rw [hfl]; exact List.mem_append_right _ (List.mem_singleton.mpr rfl), fun a g hd => by rw [hcy]; exact m5 a g hd⟩
      · exact absurd e hin
    · rw [if_neg hz] at hin
      exact absurd hst hin

end Msg

/-- a restart: the queues are empty and nothing is waited for, so nothing is lost that decryptability reads -/
theorem restart_crypto {s : Sys} {a : Acct} (h : FInv accts groups s) (hall : Allowed s (.restart a) = true) :
    DV groups (view (step s (.restart a))) ∧ GV groups (view (step s (.restart a))) ∧ DeadOK (step s (.restart a)) := by
  simp only [Allowed, Bool.and_eq_true] at hall
  have ha : a ∈ accts := (h.ainv.reg a).mp hall.1.1
  have hv : view (step s (.restart a)) = ((view s).popOut a ((view s).outb a)).cstep a
      { getClient s a with sentQueue := [], pendingIn := [], iqReg := [], retries := [], skipEnc := [] } [] (view s).nextCtr := by
    simp only [step]
    rw [view_setClient _ _ _ (h.acc ha), View.popOut_self]
  have hn : Neutral (getClient s a)
      { getClient s a with sentQueue := [], pendingIn := [], iqReg := [], retries := [], skipEnc := [] } [] :=
    ⟨rfl, rfl, rfl, (h.dv.p0 a).1.symm, rfl, rfl, rfl, (fun e he => by cases he), (fun st hst => by cases hst)⟩
  exact neutral_step (cons := []) (rest := queueOf s.outbound a) h rfl (fun st hst => by cases hst) hv hn (fun p hp => hp)

theorem crypto_step (hw : WFConfig accts groups) (hnd : ∀ g ∈ groups, g.2.Nodup) {s : Sys} {act : Act}
    (h : FInv accts groups s) (hall : Allowed s act = true) :
    DV groups (view (step s act)) ∧ GV groups (view (step s act)) := by
  cases act with
  | appSend a n =>
    obtain ⟨c1, c2, _⟩ := appSend_crypto h hall
    exact ⟨c1, c2⟩
  | process a =>
    obtain ⟨st, rest, hq⟩ := allowed_process hall
    rw [step_process hq]
    exact process_crypto hnd h.ainv (h.ups a) h.dv h.gv hq
  | restart a =>
    obtain ⟨c1, c2, _⟩ := restart_crypto h hall
    exact ⟨c1, c2⟩
  | deliver y f =>
    obtain ⟨st, rest, hq, ⟨hnm, rfl⟩ | ⟨id, peer, part, im, encs, pl, rfl, ⟨hd, rfl⟩ | hd⟩⟩ := deliver_cases h hall
    · obtain ⟨c1, c2, _⟩ := deliver_other_crypto h hq hnm
      rw [step_deliver_pop hq]
      exact ⟨c1, c2⟩
    · exact ⟨(deliver_dead_FInv h hq hw hd).dv, (deliver_dead_FInv h hq hw hd).gv⟩
    · have hdd := h.dv.down y _ (mem_head hq)
      cases f with
      | none =>
        rw [step_deliver_pop hq]
        exact (recv_live h hq hd (Or.inl rfl) hdd.1.nonempty false (view_setOutbound s y rest)).1
      | dup =>
        simp only [step, hq]
        exact And.left (recv_live h hq hd (Or.inl rfl) hdd.1.nonempty true
          ((View.popOut_self' (view s) y).symm.trans (congrArg ((view s).popOut y) hq)))
      | corrupt =>
        simp only [step, hq]
        exact And.left (recv_live h hq hd (Or.inr rfl) (corruptLast_shape hdd.1).1.nonempty false (view_setOutbound s y rest))

/-- the bound is what the simulation of a delivery needs: the sent queue answers retry requests for the last 100 messages -/
theorem finv_step (hw : WFConfig accts groups) (hnd : ∀ g ∈ groups, g.2.Nodup) {s : Sys} {act : Act}
    (h : FInv accts groups s) (hall : Allowed s act = true) (hlen : s.submitted.length ≤ 100) :
    FInv accts groups (Yow.E2E.step s act) := by
  obtain ⟨c1, c2⟩ := crypto_step hw hnd h hall
  suffices hs : TV false accts groups (Yow.E2E.step s act).submitted (view (flat (Yow.E2E.step s act))) ∧
      DeadOK (Yow.E2E.step s act) from ⟨step_inv h.ainv hall, hs.1, c1, c2, hs.2⟩
  cases act with
  | appSend a n => exact ⟨sim_appSend hw h.ainv h.tv hall, (appSend_crypto h hall).2.2⟩
  | process a =>
    obtain ⟨hTV, hcl, hadd⟩ := sim_process hw hnd h.ainv h.tv hall
    have hfl : (Yow.E2E.step s (.process a)).faulted = s.faulted := by
      obtain ⟨st, rest, hq⟩ := allowed_process hall
      rw [step_process hq, serverProcess_eq]
      exact (pushAll_frame _ _).2
    refine ⟨hTV, h.dead.mono (fun z => by rw [hcl z]; exact CGrow.rfl' _) (fun p hp => by rw [hfl]; exact hp)
      (fun y key hk => by rw [hcl y]; exact hk) ?_⟩
    intro y st' hst' hd
    rw [hcl y] at hd
    obtain ⟨add, e, hl⟩ := hadd y
    rw [e] at hst'
    rcases List.mem_append.mp hst' with h1 | h1
    · exact ⟨h1, hd⟩
    · rw [hl st' h1] at hd; cases hd
  | restart a => exact ⟨sim_restart hw h.ainv h.tv hall, (restart_crypto h hall).2.2⟩
  | deliver y f =>
    obtain ⟨st, rest, hq, ⟨hnm, rfl⟩ | ⟨id, peer, part, im, encs, pl, rfl, ⟨hd, rfl⟩ | hd⟩⟩ := deliver_cases h hall
    · exact ⟨(sim_deliver_live hw h.ainv h.tv hlen hq (dead_nonmsg _ hnm)).1, step_deliver_pop hq ▸ (deliver_other_crypto h hq hnm).2.2⟩
    · exact ⟨(deliver_dead_FInv h hq hw hd).tv, (deliver_dead_FInv h hq hw hd).dead⟩
    · have hdd := h.dv.down y _ (mem_head hq)
      cases f with
      | none =>
        have hsim := sim_deliver_live hw h.ainv h.tv hlen hq hd
        exact ⟨hsim.1, deadOK_deliver_pop (F := s.faulted) h hq hd (Or.inl rfl) hdd.1.nonempty (fun p hp => hp) (step_deliver_pop hq) hsim.2⟩
      | dup => exact deliver_live_dup h hq hw hlen hd
      | corrupt =>
        have hshape' := (corruptLast_shape hdd.1).1
        obtain ⟨_, _, _, _, hsess, _⟩ := msg_crypto h hq hd (Or.inr rfl) false
        have hsim := sim_deliver_corrupt hw h.ainv h.tv hq hd hshape' (corruptLast_ctr encs) hsess
        exact ⟨hsim.1, deadOK_deliver_pop (F := s.faulted ++ [(id, y)]) h hq hd (Or.inr rfl) hshape'.nonempty
          (fun p hp => List.mem_append_left _ hp) (by simp only [Yow.E2E.step, hq]) hsim.2⟩

end

end Yow.E2E
