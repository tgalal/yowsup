/-
  Exactly-once with server faults: in a quiescent state of a run in which the server may duplicate or damage deliveries
  (each message/recipient pair at most once, as `Allowed` demands), every submitted message was shown exactly once to
  each intended recipient, and its sender has at least one delivery receipt from each of them.  `TV.quiescent` is what the
  token invariant says at quiescence; E2ETokUnbounded uses it too.
-/
import YowsupVerif.Lemmas.E2EFaultStep
import YowsupVerif.Lemmas.E2ETokens
namespace Yow.E2E

section
variable {accts : List Acct} {groups : List (Nat × List Acct)}

theorem TV.quiescent {ex : Bool} {L : List (Acct × Node)} {V : View} (hT : TV ex accts groups L V)
    (hin : ∀ z, V.inb z = []) (hout : ∀ z, V.outb z = []) {a : Acct} {n : Node} (hsub : (a, n) ∈ L) {r : Acct}
    (hr : r ∈ intendedG groups a n) : shownC (V.cl r) n.id = 1 ∧ rcRel ex (rcptGot (V.cl a) n.id r) 1 := by
  have hiq : ∀ z, (V.cl z).iqReg = [] := fun z => List.eq_nil_iff_forall_not_mem.mpr fun e he => by
    obtain ⟨st, hst, _⟩ := (hT.ans z).1 e he
    rw [hin, hout] at hst
    cases hst
  have hpend : ∀ z, (V.cl z).pendingIn = [] := fun z => List.eq_nil_iff_forall_not_mem.mpr fun e he => by
    obtain ⟨k, hk, _⟩ := (hT.ans z).2 e he
    rw [hiq] at hk
    cases hk
  have hcons := hT.cons a n hsub r hr
  have hrc := hT.rcons a n hsub r hr
  unfold tokensV at hcons
  unfold receiptTokensV at hrc
  simp only [hin, hout, hiq, hpend, contS, pendS, sumMap_nil', Nat.zero_add] at hcons hrc
  rw [hcons] at hrc
  exact ⟨hcons, hrc⟩

theorem init_FInv (hw : WFConfig accts groups) : FInv accts groups (initSys accts groups) := by
  refine ⟨init_inv accts groups hw, (init_TInv (ex := false) hw).2, ?_, ?_, fun y st hst => by cases hst⟩
  · rw [view_init]
    exact {
      p0 := fun r => ⟨rfl, fun e he => by cases he⟩
      d2 := fun x y se hl => by cases hl
      up := fun x st hst => by cases hst
      down := fun y st hst => by cases hst
      g2 := fun y g x gen hl => by cases hl
      c1 := fun a e he => by cases he
      c2 := fun a e he => by cases he }
  · rw [view_init]
    intro a g hown
    cases hown

theorem FInv_run (hw : WFConfig accts groups) (hnd : ∀ g ∈ groups, g.2.Nodup) (acts : List Act) (s : Sys)
    (h : FInv accts groups s) (ha : AllowedRun s acts = true) (hn : s.submitted.length + sendCount acts ≤ 100) :
    FInv accts groups (run s acts) := by
  refine (run_induction (Inv := fun s acts => FInv accts groups s ∧ s.submitted.length + sendCount acts ≤ 100)
    ?_ acts s ⟨h, hn⟩ ha).1
  intro s act acts ⟨h, hn⟩ hall
  have hn' : (step s act).submitted.length + sendCount acts ≤ 100 := step_submitted_len h.ainv hall acts ▸ hn
  exact ⟨finv_step hw hnd h hall (Nat.le_trans (Nat.le_add_right _ _) hn), hn'⟩

end

theorem exactly_once_with_faults (accts : List Acct) (groups : List (Nat × List Acct)) (hw : WFConfig accts groups)
    (hnd : ∀ g ∈ groups, g.2.Nodup) (acts : List Act) (ha : AllowedRun (initSys accts groups) acts = true)
    (hn : sendCount acts ≤ 100) :
    let s := run (initSys accts groups) acts
    quiescent s = true →
      ∀ a n, (a, n) ∈ s.submitted → ∀ r, r ∈ intended s a n →
        shownCount s r n.id = 1 ∧
        1 ≤ ((getClient s a).receipts.filter (fun e =>
          e.1 == n.id && e.2.2.2 == RType.delivery && (e.2.2.1 == some r || (e.2.2.1.isNone && e.2.1 == Dest.user r)))).length := by
  intro s hq a n hsub r hr
  have hF : FInv accts groups s := FInv_run hw hnd acts _ (init_FInv hw) ha (by
    rw [show (initSys accts groups).submitted.length = 0 from rfl, Nat.zero_add]; exact hn)
  have hqf := quiescent_flat hq
  unfold quiescent at hqf
  rw [Bool.and_eq_true] at hqf
  have hr' : r ∈ intendedG groups a n := by rw [← hF.ainv.grp]; exact hr
  obtain ⟨hsh, hrc⟩ := hF.tv.quiescent (fun z => queueOf_nil_of_all hqf.1 z) (fun z => queueOf_nil_of_all hqf.2 z) hsub hr'
  refine ⟨hsh, ?_⟩
  show 1 ≤ rcptGot (getClient s a) n.id r
  simpa [rcRel] using hrc

end Yow.E2E
