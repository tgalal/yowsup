/-
  A queued message stanza whose first ciphertext the recipient has already opened is dead (a duplicated delivery left it
  behind); the flattened state forgets the dead stanzas.  Where the token invariant (E2ETokInv) holds nothing queued is dead.
-/
import YowsupVerif.Lemmas.E2ETokRun
import YowsupVerif.Lemmas.E2EFlatFrame
import YowsupVerif.Lemmas.E2EFlatGrow
namespace Yow.E2E

/-- the recipient has opened the ciphertext it would open first -/
def dead (c : Client) : Stanza → Bool
  | .msg _ _ _ _ encs _ =>
    (match heFirst encs with
     | some ct => c.seen.contains (ct.sess, ct.ctr)
     | none =>
       match firstKind encs .skmsg with
       | some k => c.seenSK.contains (k.sess, k.ctr)
       | none => false)
  | _ => false

theorem dead_nonmsg (c : Client) {st : Stanza} (h : ∀ id peer part im encs pl, st ≠ .msg id peer part im encs pl) :
    dead c st = false := by
  cases st with
  | msg id peer part im encs pl => exact absurd rfl (h id peer part im encs pl)
  | _ => rfl

theorem dead_iff {c : Client} {id : Nat} {peer : Dest} {part : Option Acct} {im : Bool} {encs : List (Option Acct × Ct)}
    {pl : Option Payload} :
    dead c (.msg id peer part im encs pl) = true ↔
      (∃ ct, heFirst encs = some ct ∧ (ct.sess, ct.ctr) ∈ c.seen) ∨
      (heFirst encs = none ∧ ∃ k, firstKind encs .skmsg = some k ∧ (k.sess, k.ctr) ∈ c.seenSK) := by
  unfold dead
  cases h1 : heFirst encs with
  | some ct => simp [h1]
  | none => cases h2 : firstKind encs .skmsg <;> simp [h1, h2]

theorem dead_mono {c c' : Client} (h : CGrow c c') {st : Stanza} (hd : dead c st = true) : dead c' st = true := by
  cases st with
  | msg id peer part im encs pl =>
    rw [dead_iff] at hd ⊢
    rcases hd with ⟨ct, h1, h2⟩ | ⟨h0, k, h1, h2⟩
    · exact Or.inl ⟨ct, h1, h.1 _ h2⟩
    · exact Or.inr ⟨h0, k, h1, h.2.1 _ h2⟩
  | _ => cases hd

def liveQ (c : Client) (q : List Stanza) : List Stanza := q.filter (fun st => !dead c st)

theorem mem_liveQ {c : Client} {P : List Stanza} {st : Stanza} : st ∈ liveQ c P ↔ st ∈ P ∧ dead c st = false := by
  simp [liveQ]

theorem liveQ_append (c : Client) (P Q : List Stanza) : liveQ c (P ++ Q) = liveQ c P ++ liveQ c Q := List.filter_append ..

theorem liveQ_eq_self {c : Client} {P : List Stanza} (h : ∀ st ∈ P, dead c st = false) : liveQ c P = P :=
  List.filter_eq_self.mpr (fun st hst => by rw [h st hst]; rfl)

theorem liveQ_cons_live {c : Client} {st : Stanza} (h : dead c st = false) (rest : List Stanza) :
    liveQ c (st :: rest) = st :: liveQ c rest :=
  List.filter_cons_of_pos (by rw [h]; rfl)

theorem liveQ_cons_dead {c : Client} {st : Stanza} (h : dead c st = true) (rest : List Stanza) :
    liveQ c (st :: rest) = liveQ c rest :=
  List.filter_cons_of_neg (by rw [h]; decide)

theorem liveQ_eq {c c' : Client} (hg : CGrow c c') {P : List Stanza} (hl : ∀ st ∈ liveQ c P, dead c' st = false) :
    liveQ c' P = liveQ c P := by
  refine List.filter_congr (fun st hst => ?_)
  cases hd : dead c st with
  | true => rw [dead_mono hg hd]
  | false => rw [hl st (mem_liveQ.mpr ⟨hst, hd⟩)]

def flat (s : Sys) : Sys := s.wo (s.outbound.map (fun q => (q.1, liveQ (getClient s q.1) q.2))) s.faulted

theorem queueOf_flat (s : Sys) (y : Acct) : queueOf (flat s).outbound y = liveQ (getClient s y) (queueOf s.outbound y) := by
  unfold queueOf flat
  rw [wo_outbound, lookup_map_val (fun a q => liveQ (getClient s a) q)]
  cases lookup s.outbound y <;> rfl

@[simp] theorem getClient_flat (s : Sys) (y : Acct) : getClient (flat s) y = getClient s y := rfl
@[simp] theorem flat_inbound (s : Sys) : (flat s).inbound = s.inbound := rfl
@[simp] theorem flat_submitted (s : Sys) : (flat s).submitted = s.submitted := rfl
@[simp] theorem flat_clients (s : Sys) : (flat s).clients = s.clients := rfl

/-- the flattened new state, seen from the step of the flattened state: the view reads of the queue table only the queues -/
theorem view_flat_eq {s' : Sys} {o2 : List (Acct × List Stanza)} {f2 : List (Nat × Acct)}
    (h : ∀ z, queueOf o2 z = liveQ (getClient s' z) (queueOf s'.outbound z)) :
    view (flat s') = view (s'.wo o2 f2) :=
  congrArg (fun q => { view s' with outb := q }) (funext fun z => (queueOf_flat s' z).trans (h z).symm)

section
variable {ex : Bool} {accts : List Acct} {groups : List (Nat × List Acct)}

theorem AInv_flat {s : Sys} (h : AInv accts groups (abs s)) : AInv accts groups (abs (flat s)) :=
  { h with outb_ok := fun z st hst =>
      h.outb_ok z st (mem_liveQ.mp ((queueOf_flat s z).subst (motive := (st ∈ ·)) hst)).1 }

theorem live_of_unop {L : List (Acct × Node)} {V : View} (hT : TV ex accts groups L V) {z : Acct} (hz : z ∈ accts) {st : Stanza}
    (hst : st ∈ V.outb z) : dead (V.cl z) st = false := by
  cases st with
  | msg id peer part im encs pl =>
    have hw := ctrs_unopened hT hz hst
    rw [Bool.eq_false_iff, Ne, dead_iff]
    rintro (⟨ct, h1, h2⟩ | ⟨_, k, h1, h2⟩)
    · obtain ⟨e, he, rfl⟩ := heFirst_mem h1
      exact (hw e he).1 (List.mem_map.mpr ⟨_, h2, rfl⟩)
    · obtain ⟨e, he, rfl⟩ := firstKind_mem h1
      exact (hw e he).2 (List.mem_map.mpr ⟨_, h2, rfl⟩)
  | _ => rfl

end

theorem dead_congr {c c' : Client} (h1 : c'.seen = c.seen) (h2 : c'.seenSK = c.seenSK) (st : Stanza) : dead c' st = dead c st := by
  cases st with
  | msg id peer part im encs pl => simp only [dead, h1, h2]
  | _ => rfl

theorem dead_iff_seen {c : Client} {id : Nat} {peer : Dest} {part : Option Acct} {im : Bool} {encs : List (Option Acct × Ct)}
    {pl : Option Payload} {ct : Ct} (hf : heFirst encs = some ct) :
    dead c (.msg id peer part im encs pl) = true ↔ (ct.sess, ct.ctr) ∈ c.seen := by
  simp [dead, hf]

theorem dead_iff_seenSK {c : Client} {id : Nat} {peer : Dest} {part : Option Acct} {im : Bool} {encs : List (Option Acct × Ct)}
    {pl : Option Payload} {k : Ct} (hf : heFirst encs = none) (hfk : firstKind encs .skmsg = some k) :
    dead c (.msg id peer part im encs pl) = true ↔ (k.sess, k.ctr) ∈ c.seenSK := by
  simp [dead, hf, hfk]

end Yow.E2E
