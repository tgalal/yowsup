/-
  Deliveries with faults, simulated in the flattened state (E2EFlatSim): an ordinary delivery, a duplicated one (the copy
  left behind is dead), a damaged one - each is a fault-free delivery of the flattened state (E2ETokDeliver) - and the later
  delivery of a dead copy, which the flattened state does not have: there it is one more receipt for a message already shown.
-/
import YowsupVerif.Lemmas.E2EFlatSim
import YowsupVerif.Lemmas.E2ETokHandleEncFrame
namespace Yow.E2E

theorem step_deliver (s : Sys) {o : List (Acct × List Stanza)} (fl : List (Nat × Acct)) {y : Acct} {st : Stanza}
    {rest : List Stanza} (hq : queueOf o y = st :: rest) :
    step (s.wo o fl) (.deliver y .none) = (clientReceive s y st).wo (insert o y rest) fl := by
  simp only [step, wo_outbound, hq]
  exact clientReceive_wo s (insert o y rest) fl y st

section
variable (s : Sys) {o : List (Acct × List Stanza)} (fl : List (Nat × Acct)) {y : Acct} {rest : List Stanza} {id : Nat} {peer : Dest}
  {part : Option Acct} {im : Bool} {encs : List (Option Acct × Ct)} {pl : Option Payload}

theorem step_deliver_dup (hq : queueOf o y = .msg id peer part im encs pl :: rest) :
    step (s.wo o fl) (.deliver y .dup) = (clientReceive s y (.msg id peer part im encs pl)).wo o (fl ++ [(id, y)]) := by
  simp only [step, wo_outbound, hq]
  exact clientReceive_wo s o (fl ++ [(id, y)]) y _

theorem step_deliver_corrupt (hq : queueOf o y = .msg id peer part im encs pl :: rest) :
    step (s.wo o fl) (.deliver y .corrupt)
      = (clientReceive s y (.msg id peer part im (corruptLast encs) pl)).wo (insert o y rest) (fl ++ [(id, y)]) := by
  simp only [step, wo_outbound, hq]
  exact clientReceive_wo s (insert o y rest) (fl ++ [(id, y)]) y _

end

theorem queue_after_pop (s : Sys) (y : Acct) (rest : List Stanza) (z : Acct) :
    queueOf (insert (flat s).outbound y (liveQ (getClient s y) rest)) z
      = liveQ (getClient s z) (queueOf (insert s.outbound y rest) z) := by
  rw [queueOf_insert, queueOf_insert]
  split
  · next e => rw [e]
  · exact queueOf_flat s z

theorem queueOf_flat_cons {s : Sys} {y : Acct} {st : Stanza} {rest : List Stanza} (hq : queueOf s.outbound y = st :: rest)
    (hlive : dead (getClient s y) st = false) : queueOf (flat s).outbound y = st :: liveQ (getClient s y) rest := by
  rw [queueOf_flat, hq, liveQ_cons_live hlive]

section
variable {ex : Bool} {accts : List Acct} {groups : List (Nat × List Acct)}

/-- The client `y` received `st0` in place of the live head of its queue.  In the flattened state that is a delivery with
the head taken off; physically the queues are `o1`, which keep at most stanzas that are dead afterwards. -/
theorem deliver_flat {L : List (Acct × Node)} {s : Sys} {y : Acct} {st0 stq : Stanza} {rest : List Stanza}
    (o1 : List (Acct × List Stanza)) (f1 : List (Nat × Acct))
    (hA : AInv accts groups (abs s)) (hq : queueOf s.outbound y = stq :: rest)
    (hT2 : TV ex accts groups L
      (view ((clientReceive s y st0).wo (insert (flat s).outbound y (liveQ (getClient s y) rest)) s.faulted)))
    (hP : ∀ z, liveQ (getClient (clientReceive s y st0) z) (queueOf o1 z)
      = liveQ (getClient (clientReceive s y st0) z) (queueOf (insert s.outbound y rest) z)) :
    TV ex accts groups L (view (flat ((clientReceive s y st0).wo o1 f1))) ∧
    ∀ z st, st ∈ queueOf (insert s.outbound y rest) z → dead (getClient s z) st = false →
      dead (getClient ((clientReceive s y st0).wo o1 f1) z) st = false := by
  have hin : ∀ z st', st' ∈ queueOf (insert (flat s).outbound y (liveQ (getClient s y) rest)) z → z ∈ accts := by
    intro z st' hst'
    rw [queue_after_pop, mem_liveQ] at hst'
    exact (hA.outb_ok z st' (mem_queueOf_pop hq hst'.1)).1
  refine ⟨sim_flat (s := s) hT2 hin (Grow.clientReceive s y st0) _ (queue_after_pop s y rest) hP, fun z st hst hd => ?_⟩
  -- what was live and stays queued is queued in the flattened new state, which satisfies the invariant
  have hm : st ∈ queueOf (insert (flat s).outbound y (liveQ (getClient s y) rest)) z := by
    rw [queue_after_pop]; exact mem_liveQ.mpr ⟨hst, hd⟩
  exact live_of_unop hT2 (hin z st hm) hm

theorem sim_deliver_live (hw : WFConfig accts groups) {s : Sys} {y : Acct} {st : Stanza} {rest : List Stanza}
    (hA : AInv accts groups (abs s)) (hT : TV ex accts groups s.submitted (view (flat s)))
    (hlen : s.submitted.length ≤ 100) (hq : queueOf s.outbound y = st :: rest) (hlive : dead (getClient s y) st = false) :
    TV ex accts groups (step s (.deliver y .none)).submitted (view (flat (step s (.deliver y .none)))) ∧
    (∀ z st, st ∈ queueOf (insert s.outbound y rest) z → dead (getClient s z) st = false →
      dead (getClient (step s (.deliver y .none)) z) st = false) := by
  have hqf := queueOf_flat_cons hq hlive
  have hall' : Allowed (flat s) (.deliver y .none) = true := by simp only [Allowed, hqf]
  have h2 := (deliver_TInv hw ⟨AInv_flat hA, hT⟩ hall' hlen).2
  rw [show step (flat s) (.deliver y .none) = _ from step_deliver s s.faulted hqf] at h2
  rw [show step s (.deliver y .none) = _ from step_deliver s s.faulted hq]
  exact deliver_flat _ _ hA hq h2 (fun _ => rfl)

theorem sim_deliver_dup (hw : WFConfig accts groups) {s : Sys} {y : Acct} {rest : List Stanza} {id : Nat} {peer : Dest}
    {part : Option Acct} {im : Bool} {encs : List (Option Acct × Ct)} {pl : Option Payload}
    (hA : AInv accts groups (abs s)) (hT : TV ex accts groups s.submitted (view (flat s)))
    (hlen : s.submitted.length ≤ 100) (hq : queueOf s.outbound y = .msg id peer part im encs pl :: rest)
    (hlive : dead (getClient s y) (.msg id peer part im encs pl) = false)
    (hdead' : dead (getClient (clientReceive s y (.msg id peer part im encs pl)) y) (.msg id peer part im encs pl) = true) :
    TV ex accts groups (step s (.deliver y .dup)).submitted (view (flat (step s (.deliver y .dup)))) ∧
    (∀ z st, st ∈ queueOf (insert s.outbound y rest) z → dead (getClient s z) st = false →
      dead (getClient (step s (.deliver y .dup)) z) st = false) := by
  have hqf := queueOf_flat_cons hq hlive
  have hall' : Allowed (flat s) (.deliver y .none) = true := by simp only [Allowed, hqf]
  have h2 := (deliver_TInv hw ⟨AInv_flat hA, hT⟩ hall' hlen).2
  rw [show step (flat s) (.deliver y .none) = _ from step_deliver s s.faulted hqf] at h2
  rw [show step s (.deliver y .dup) = _ from step_deliver_dup s s.faulted hq]
  refine deliver_flat _ _ hA hq h2 (fun z => ?_)
  rw [queueOf_insert]
  split
  · next e => subst e; rw [hq, liveQ_cons_dead hdead']
  · rfl

theorem sim_deliver_corrupt (hw : WFConfig accts groups) {s : Sys} {y : Acct} {rest : List Stanza} {id : Nat} {peer : Dest}
    {part : Option Acct} {im : Bool} {encs : List (Option Acct × Ct)} {pl : Option Payload}
    (hA : AInv accts groups (abs s)) (hT : TV ex accts groups s.submitted (view (flat s)))
    (hq : queueOf s.outbound y = .msg id peer part im encs pl :: rest)
    (hlive : dead (getClient s y) (.msg id peer part im encs pl) = false)
    (hshape' : DownShape (.msg id peer part im (corruptLast encs) pl))
    (hctr : (corruptLast encs).map (fun e => e.2.ctr) = encs.map (fun e => e.2.ctr))
    (hns : ∀ ct, heFirst (corruptLast encs) = some ct → (decrypt (getClient s y) (whoOf peer part) ct).2 ≠ .noSession) :
    TV ex accts groups (step s (.deliver y .corrupt)).submitted (view (flat (step s (.deliver y .corrupt)))) ∧
    (∀ z st, st ∈ queueOf (insert s.outbound y rest) z → dead (getClient s z) st = false →
      dead (getClient (step s (.deliver y .corrupt)) z) st = false) := by
  have hqf := queueOf_flat_cons hq hlive
  obtain ⟨hy, ⟨a', n, h1, h2', h3, h4, he⟩, _⟩ := hA.outb_ok y _ (show _ ∈ queueOf s.outbound y by rw [hq]; exact List.mem_cons_self)
  have h2 := deliver_msg_TV' (ex := ex) hw (AInv_flat hA) hT hqf hshape' hctr (fun _ => hns)
  rw [show step s (.deliver y .corrupt) = _ from step_deliver_corrupt s s.faulted hq]
  have hsub : ((clientReceive s y (.msg id peer part im (corruptLast encs) pl)).wo (insert s.outbound y rest)
      (s.faulted ++ [(id, y)])).submitted = s.submitted :=
    (clientReceive_good (st := .msg id peer part im (corruptLast encs) pl) hA hy ⟨a', n, h1, h2', h3, h4, he.corruptLast⟩
      (LinkOK.of_none rfl)).2
  rw [hsub]
  exact deliver_flat _ _ hA hq
    ((clientReceive_wo s (insert (flat s).outbound y (liveQ (getClient s y) rest)) s.faulted y _).subst
      (motive := fun X => TV ex accts groups s.submitted (view X)) h2) (fun _ => rfl)

end

theorem rstep_set_emit {s : Sys} {r : Acct} (c : Client) (hr : r ∈ (view s).accounts) (st : Stanza) :
    RStep s (emit (setClient s r c) r st) r c [st] := rstep_setClient_emit hr c st

theorem handleEnc_dead {s : Sys} {y : Acct} (hy : y ∈ (view s).accounts) (id : Nat) (peer : Dest) (part : Option Acct) (im : Bool)
    (encs : List (Option Acct × Ct)) (pl : Option Payload)
    (h1 : ∀ ct, heFirst encs = some ct → decrypt (getClient s y) (whoOf peer part) ct = (getClient s y, .duplicate))
    (h2 : heFirst encs = none → ∃ g k, peer = .group g ∧ firstKind encs .skmsg = some k ∧
      groupDecrypt (getClient s y) g (whoOf peer part) k = (getClient s y, .duplicate)) :
    RStep s (handleEnc s y (.msg id peer part im encs pl)) y (getClient s y) [.receipt id peer part .delivery] := by
  have hfin := rstep_handleEnc hy id peer part im encs pl
  cases hf : heFirst encs with
  | some ct => rwa [heC_fail hf (h1 ct hf) (fun _ => Dec.noConfusion)] at hfin
  | none =>
    obtain ⟨g, k, rfl, hk, hd⟩ := h2 hf
    rwa [heC_none hf, stage2C_fail hk hd (Or.inr rfl)] at hfin

section
variable {accts : List Acct} {groups : List (Nat × List Acct)}

theorem TV.extra_receipt (hn : accts.Nodup) {L : List (Acct × Node)} {V : View} (h : TV false accts groups L V) {y : Acct} (hy : y ∈ accts)
    (id : Nat) (peer : Dest) (part : Option Acct) (hsh : 1 ≤ shownC (V.cl y) id) :
    TV false accts groups L (V.cstep y (V.cl y) [.receipt id peer part .delivery] V.nextCtr) := by
  have hc : CStepOKc accts groups L V y [] (V.outb y) (V.cl y) [.receipt id peer part .delivery] V.nextCtr := {
    hx := hy
    hq := rfl
    hk := Nat.le_refl _
    shown_mono := fun _ => Nat.le_refl _
    good_c := h.clients y
    good_out := by
      intro st hst
      rw [List.mem_singleton] at hst; subst hst
      refine ⟨trivial, (fun e he => by cases he), trivial, ?_, (fun _ _ _ _ e => by cases e)⟩
      intro id' peer' part' e
      cases e
      exact hsh
    cons_S := fun _ _ _ _ => rfl
    cons_R := fun _ _ _ _ => by rw [sumMap_nil', Nat.zero_add]; rfl
    ans_iq := fun e he => Or.inl ⟨he, fun st hst => by cases hst⟩
    ans_pend := (h.ans y).2
    kept_S := by
      intro n hn' r hr
      simp only [sumMap_cons, sumMap_nil', upTok_receipt, Nat.add_zero]
      exact h.kept y n hn' r hr
    kept_R := fun _ _ _ _ => Nat.le_add_left _ _
    ret3 := h.ret3 y
    slots := h.slots y
    rids := h.rids y
    retq := h.retq y
    unop_out := fun _ _ _ => ⟨Nat.zero_le _, fun h => absurd h (Nat.not_succ_le_zero 0)⟩
    unop_pend := fun _ => Nat.le_add_left _ _
    unop_seen := fun m hm => Or.inl hm }
  have := TV.client_step_core hn h hc ?_
  · rw [View.popOut_self] at this
    exact this
  · intro a n hn' r hr
    rw [View.popOut_self]
    have h0 := h.rcons a n hn' r hr
    have d := receiptTokensV_cstep V y (V.cl y) [.receipt id peer part .delivery] V.nextCtr a n.id r
    rw [show (V.cstep y (V.cl y) [.receipt id peer part .delivery] V.nextCtr).cl = V.cl from upd_self V.cl y]
    unfold rcRel at h0 ⊢
    simp only [Bool.false_eq_true, if_false] at h0 ⊢
    omega

theorem View.popOut_self' (V : View) (x : Acct) : V.popOut x (V.outb x) = V := V.popOut_self x

theorem sim_deliver_dead (hw : WFConfig accts groups) {s : Sys} {y : Acct} {rest : List Stanza} {id : Nat} {peer : Dest}
    {part : Option Acct} {im : Bool} {encs : List (Option Acct × Ct)} {pl : Option Payload}
    (hA : AInv accts groups (abs s)) (hT : TV false accts groups s.submitted (view (flat s)))
    (hq : queueOf s.outbound y = .msg id peer part im encs pl :: rest)
    (hdead : dead (getClient s y) (.msg id peer part im encs pl) = true)
    (hne : encs.isEmpty = false)
    (hsh : 1 ≤ shownC (getClient s y) id)
    (h1 : ∀ ct, heFirst encs = some ct → decrypt (getClient s y) (whoOf peer part) ct = (getClient s y, .duplicate))
    (h2 : heFirst encs = none → ∃ g k, peer = .group g ∧ firstKind encs .skmsg = some k ∧
      groupDecrypt (getClient s y) g (whoOf peer part) k = (getClient s y, .duplicate)) :
    TV false accts groups (step s (.deliver y .none)).submitted (view (flat (step s (.deliver y .none)))) := by
  obtain ⟨hy, hd, hl⟩ := hA.outb_ok y _ (show _ ∈ queueOf s.outbound y by rw [hq]; exact List.mem_cons_self)
  have hrecv : clientReceive s y (.msg id peer part im encs pl) = handleEnc s y (.msg id peer part im encs pl) :=
    clientReceive_msg s y hne
  rw [show step s (.deliver y .none) = _ from step_deliver s s.faulted hq]
  have hsub : ((clientReceive s y (.msg id peer part im encs pl)).wo (insert s.outbound y rest) s.faulted).submitted = s.submitted :=
    (clientReceive_good hA hy hd hl).2
  rw [hsub]
  -- the flattened state does not have the stanza; there the client's step is one more receipt out of nothing
  have hr : view (handleEnc (flat s) y (.msg id peer part im encs pl))
      = (view (flat s)).cstep y ((view (flat s)).cl y) [.receipt id peer part .delivery] (view (flat s)).nextCtr :=
    handleEnc_dead (s := flat s) (by rw [hT.acc]; exact hy) id peer part im encs pl h1 h2
  have hTV := TV.extra_receipt hw.1 hT hy id peer part hsh
  rw [← hr, show handleEnc (flat s) y (.msg id peer part im encs pl) = _ from handleEnc_wo s (flat s).outbound s.faulted y _,
    ← hrecv] at hTV
  refine sim_flat (s := s) hTV (fun z st hst => ((AInv_flat hA).outb_ok z st hst).1) (Grow.clientReceive s y _)
    (fun z => queueOf (insert s.outbound y rest) z) (fun z => ?_) (fun _ => rfl)
  rw [queueOf_flat, queueOf_insert]
  split
  · next e => subst e; rw [hq, liveQ_cons_dead hdead]
  · rfl

end

end Yow.E2E
