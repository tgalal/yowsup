/-
  What a client does never depends on the server's queues for the clients nor on the fault budget, and leaves both
  alone: every function of the send and receive layers commutes with `Sys.wo`, along the joints of the call tree cut in
  E2E.lean.  The simulation of a faulty run by its flattened run (E2EFlat onwards) uses it.
-/
import YowsupVerif.Lemmas.E2E
namespace Yow.E2E

/-- the same state with other server-to-client queues and another fault budget -/
def Sys.wo (s : Sys) (o : List (Acct × List Stanza)) (fl : List (Nat × Acct)) : Sys := { s with outbound := o, faulted := fl }

section
variable (s : Sys) (o : List (Acct × List Stanza)) (fl : List (Nat × Acct))

@[simp] theorem getClient_wo (a : Acct) : getClient (s.wo o fl) a = getClient s a := rfl
@[simp] theorem wo_nextCtr : (s.wo o fl).nextCtr = s.nextCtr := rfl
@[simp] theorem wo_nextSess : (s.wo o fl).nextSess = s.nextSess := rfl
@[simp] theorem wo_nextGen : (s.wo o fl).nextGen = s.nextGen := rfl
@[simp] theorem wo_outbound : (s.wo o fl).outbound = o := rfl
@[simp] theorem wo_faulted : (s.wo o fl).faulted = fl := rfl
theorem wo_self : s.wo s.outbound s.faulted = s := rfl
@[simp] theorem wo_wo (o' : List (Acct × List Stanza)) (fl' : List (Nat × Acct)) : (s.wo o fl).wo o' fl' = s.wo o' fl' := rfl

theorem emit_wo (a : Acct) (st : Stanza) : emit (s.wo o fl) a st = (emit s a st).wo o fl := rfl
theorem setClient_wo (a : Acct) (c : Client) : setClient (s.wo o fl) a c = (setClient s a c).wo o fl := rfl
theorem setCtr_wo (k : Nat) : { s.wo o fl with nextCtr := k } = ({ s with nextCtr := k } : Sys).wo o fl := rfl
theorem setSess_wo (k : Nat) : { s.wo o fl with nextSess := k } = ({ s with nextSess := k } : Sys).wo o fl := rfl
theorem setGen_wo (k : Nat) : { s.wo o fl with nextGen := k } = ({ s with nextGen := k } : Sys).wo o fl := rfl

theorem sendEnc_wo (a : Acct) (c : Client) (n : Node) (encs : List (Option Acct × Ct)) (p : Option Acct) :
    sendEnc (s.wo o fl) a c n encs p = (sendEnc s a c n encs p).wo o fl := rfl

theorem sendIq_wo (a : Acct) (c : Client) (mk : Nat → Stanza) (k : Cont) :
    sendIq (s.wo o fl) a c mk k = (sendIq s a c mk k).wo o fl := rfl

theorem sendToContact_wo (a : Acct) (c : Client) (n : Node) (peer : Acct) :
    sendToContact (s.wo o fl) a c n peer = (sendToContact s a c n peer).wo o fl := by
  unfold sendToContact
  simp only [wo_nextCtr]
  split <;> rfl

theorem ownSenderKey_wo (c : Client) (g : Nat) :
    ownSenderKey (s.wo o fl) c g = ((ownSenderKey s c g).1.wo o fl, (ownSenderKey s c g).2) := by
  unfold ownSenderKey
  split <;> rfl

theorem sgFirst_wo (c : Client) (n : Node) (g : Nat) (need : List Acct) (rc : Nat) (p : Option Acct) :
    sgFirst (s.wo o fl) c n g need rc p = ((sgFirst s c n g need rc p).1.wo o fl, (sgFirst s c n g need rc p).2) := by
  unfold sgFirst
  split
  · rfl
  · rw [ownSenderKey_wo]
    rfl

theorem sgTail_wo (a : Acct) (n : Node) (g rc : Nat) (p : Option Acct) (t : Sys × Client × List (Option Acct × Ct)) :
    sgTail a n g rc p (t.1.wo o fl, t.2) = (sgTail a n g rc p t).wo o fl := by
  obtain ⟨s1, c1, encs1⟩ := t
  simp only [sgTail, ownSenderKey_wo, wo_nextCtr, setCtr_wo, sendEnc_wo]
  split <;> rfl

theorem sgws_wo (a : Acct) (c : Client) (n : Node) (g : Nat) (need : List Acct) (rc : Nat) :
    sendToGroupWithSessions (s.wo o fl) a c n g need rc = (sendToGroupWithSessions s a c n g need rc).wo o fl := by
  rw [sendToGroupWithSessions_eq, sendToGroupWithSessions_eq, sgFirst_wo, sgTail_wo]

theorem ensure_wo (a : Acct) (c : Client) (n : Node) (g : Nat) (jids : List Acct) :
    ensureSessionsAndSend (s.wo o fl) a c n g jids = (ensureSessionsAndSend s a c n g jids).wo o fl := by
  unfold ensureSessionsAndSend
  dsimp only
  split
  · exact sgws_wo s o fl a c n g jids 0
  · rfl

theorem sendToGroup_wo (a : Acct) (c : Client) (n : Node) (g : Nat) (retry : Option (Acct × Nat)) :
    sendToGroup (s.wo o fl) a c n g retry = (sendToGroup s a c n g retry).wo o fl := by
  unfold sendToGroup
  split
  · rfl
  · split
    · exact sgws_wo s o fl a c n g [] 0
    · exact sgws_wo s o fl a c n g _ _

theorem processPlaintext_wo (a : Acct) (c : Client) (n : Node) (retry : Option (Acct × Nat)) :
    processPlaintext (s.wo o fl) a c n retry = (processPlaintext s a c n retry).wo o fl := by
  unfold processPlaintext
  split
  · exact sendToGroup_wo s o fl a c n _ retry
  · split
    · exact sendToContact_wo s o fl a c n _
    · rfl

theorem sendLayerSend_wo (a : Acct) (n : Node) : sendLayerSend (s.wo o fl) a n = (sendLayerSend s a n).wo o fl := by
  unfold sendLayerSend
  simp only [getClient_wo]
  by_cases h : (getClient s a).skipEnc.contains n.dest = true
  · simp only [h, if_true]; rfl
  · simp only [h]
    exact processPlaintext_wo s o fl a _ n none

theorem showAndReceipt_wo (r : Acct) (id : Nat) (peer : Dest) (part : Option Acct) (p : Payload) :
    showAndReceipt (s.wo o fl) r id peer part p = (showAndReceipt s r id peer part p).wo o fl := rfl

theorem surface_wo (r : Acct) (id : Nat) (peer : Dest) (part : Option Acct) (pl : Plain) :
    surface (s.wo o fl) r id peer part pl = (surface s r id peer part pl).wo o fl := by
  unfold surface
  split <;> rfl

theorem sendRetry_wo (r : Acct) (id : Nat) (peer : Dest) (part : Option Acct) :
    sendRetry (s.wo o fl) r id peer part = (sendRetry s r id peer part).wo o fl := rfl

theorem resetRetries_wo (r : Acct) (id : Nat) : resetRetries (s.wo o fl) r id = (resetRetries s r id).wo o fl := rfl

theorem storeSkdm_wo (r : Acct) (sender : Acct) (pl : Plain) :
    storeSkdm (s.wo o fl) r sender pl = (storeSkdm s r sender pl).wo o fl := by
  unfold storeSkdm
  split <;> rfl

theorem onDecryptFailure_wo (r : Acct) (st : Stanza) (id : Nat) (peer : Dest) (part : Option Acct) (sender : Acct) (d : Dec) :
    onDecryptFailure (s.wo o fl) r st id peer part sender d = (onDecryptFailure s r st id peer part sender d).wo o fl := by
  cases d <;> rfl


theorem stage2_wo (r : Acct) (st : Stanza) (id : Nat)
    (peer : Dest) (part : Option Acct) (sender : Acct) (encs : List (Option Acct × Ct)) :
    handleEnc.stage2 (s.wo o fl) r st id peer part sender encs = (handleEnc.stage2 s r st id peer part sender encs).wo o fl := by
  unfold handleEnc.stage2
  split
  · simp only [getClient_wo]
    split
    · rw [setClient_wo, surface_wo, resetRetries_wo]
    · rw [setClient_wo, sendRetry_wo, resetRetries_wo]
    · rw [setClient_wo, onDecryptFailure_wo]
  · rw [resetRetries_wo]

theorem handleEnc_wo (r : Acct) (st : Stanza) :
    handleEnc (s.wo o fl) r st = (handleEnc s r st).wo o fl := by
  cases st with
  | msg id peer part im encs pl =>
    rw [handleEnc_eq, handleEnc_eq]
    generalize heFirst encs = first
    cases first with
    | none => exact stage2_wo s o fl r _ id peer part _ encs
    | some ct =>
      simp only [heMain, getClient_wo]
      split
      · rw [setClient_wo, storeSkdm_wo, surface_wo, stage2_wo]
      · rw [setClient_wo, onDecryptFailure_wo]
  | _ => rfl

theorem foldl_handleEnc_wo (r : Acct) (l : List Stanza) : ∀ (s : Sys) (o : List (Acct × List Stanza)) (fl : List (Nat × Acct)),
    l.foldl (fun acc st => handleEnc acc r st) (s.wo o fl) = (l.foldl (fun acc st => handleEnc acc r st) s).wo o fl := by
  induction l with
  | nil => intro s o fl; rfl
  | cons st l ih => intro s o fl; rw [List.foldl_cons, List.foldl_cons, handleEnc_wo, ih]

theorem processPending_wo (r : Acct) (peer : Dest) (part : Option Acct) :
    processPending (s.wo o fl) r peer part = (processPending s r peer part).wo o fl := by
  unfold processPending
  simp only [getClient_wo, foldl_handleEnc_wo, setClient_wo]

theorem keyStep_wo (r : Acct) (got : List Acct)
    (ok : List Acct) (j : Acct) :
    keyStep r got (s.wo o fl, ok) j = ((keyStep r got (s, ok) j).1.wo o fl, (keyStep r got (s, ok) j).2) := by
  unfold keyStep
  split <;> rfl

theorem processKeys_wo (r : Acct) (asked got : List Acct) :
    processKeys (s.wo o fl) r asked got = ((processKeys s r asked got).1.wo o fl, (processKeys s r asked got).2) := by
  rw [processKeys_eq, processKeys_eq]
  generalize ([] : List Acct) = ok
  induction asked generalizing s ok with
  | nil => rfl
  | cons j l ih => rw [List.foldl_cons, List.foldl_cons, keyStep_wo, ih]

theorem resume_wo (r : Acct) (got ms : List Acct) (k : Cont) :
    resume (s.wo o fl) r got ms k = (resume s r got ms k).wo o fl := by
  cases k with
  | keysForSend n =>
    dsimp only [resume]
    split
    · simp only [processKeys_wo, getClient_wo, sendToContact_wo]
      exact (apply_ite (fun x : Sys => x.wo o fl) _ _ _).symm
    · rfl
  | keysForRetry n who count =>
    simp only [resume, processKeys_wo, getClient_wo, processPlaintext_wo]
    exact (apply_ite (fun x : Sys => x.wo o fl) _ _ _).symm
  | keysForPending peer part =>
    simp only [resume, processKeys_wo, processPending_wo]
    exact (apply_ite (fun x : Sys => x.wo o fl) _ _ _).symm
  | groupInfo n =>
    dsimp only [resume]
    split
    · rw [getClient_wo, ensure_wo]
    · rfl
  | keysForGroup n all l =>
    dsimp only [resume]
    split
    · simp only [processKeys_wo, getClient_wo, sgws_wo]
    · rfl

theorem onIqResult_wo (r : Acct) (iq : Nat) (got ms : List Acct) :
    onIqResult (s.wo o fl) r iq got ms = (onIqResult s r iq got ms).wo o fl := by
  rw [onIqResult_eq, onIqResult_eq, getClient_wo]
  split
  · rfl
  · rw [setClient_wo, resume_wo]

theorem onReceipt_wo (r : Acct) (id : Nat) (peer : Dest)
    (part : Option Acct) (t : RType) : onReceipt (s.wo o fl) r id peer part t = (onReceipt s r id peer part t).wo o fl := by
  unfold onReceipt
  simp only [getClient_wo, setClient_wo, emit_wo, sendIq_wo]
  split
  · rfl
  · cases t with
    | delivery => rfl
    | retry count => rfl

theorem clientReceive_wo (r : Acct) (st : Stanza) :
    clientReceive (s.wo o fl) r st = (clientReceive s r st).wo o fl := by
  cases st with
  | msg id peer part im encs pl =>
    simp only [clientReceive]
    split
    · rfl
    · exact handleEnc_wo s o fl r _
  | receipt id peer part t => exact onReceipt_wo s o fl r id peer part t
  | ack id cls => rfl
  | getKeys iq jids => rfl
  | getGroup iq g => rfl
  | keys iq got => exact onIqResult_wo s o fl r iq got []
  | groupInfo iq g ms => exact onIqResult_wo s o fl r iq [] ms

end

end Yow.E2E
