/-
  What a client has opened and what it was shown only grows, because every client operation only appends to these
  histories (`ClientOp` over `Extends`, E2EOps).  Used where faulty runs are compared with fault-free ones
  (E2EFlat onwards).
-/
import YowsupVerif.Lemmas.E2ETokInv
import YowsupVerif.Lemmas.E2EOps
namespace Yow.E2E

/-- opened ciphertexts and showings of a client record only grow -/
def CGrow (c c' : Client) : Prop :=
  (∀ e, e ∈ c.seen → e ∈ c'.seen) ∧ (∀ e, e ∈ c.seenSK → e ∈ c'.seenSK) ∧ ∀ id, shownC c id ≤ shownC c' id

theorem CGrow.rfl' (c : Client) : CGrow c c := ⟨fun _ h => h, fun _ h => h, fun _ => Nat.le_refl _⟩
theorem CGrow.trans {c c1 c2 : Client} (h1 : CGrow c c1) (h2 : CGrow c1 c2) : CGrow c c2 :=
  ⟨fun e h => h2.1 e (h1.1 e h), fun e h => h2.2.1 e (h1.2.1 e h), fun id => Nat.le_trans (h1.2.2 id) (h2.2.2 id)⟩
theorem CGrow.of_eq {c c' : Client} (h1 : c'.seen = c.seen) (h2 : c'.seenSK = c.seenSK) (h3 : c'.shown = c.shown) : CGrow c c' :=
  ⟨fun e h => h1 ▸ h, fun e h => h2 ▸ h, fun id => by unfold shownC; rw [h3]; exact Nat.le_refl _⟩

def Grow (s s' : Sys) : Prop := ∀ z, CGrow (getClient s z) (getClient s' z)

theorem Grow.rfl' (s : Sys) : Grow s s := fun _ => CGrow.rfl' _
theorem Grow.trans {s s1 s2 : Sys} (h1 : Grow s s1) (h2 : Grow s1 s2) : Grow s s2 := fun z => (h1 z).trans (h2 z)

theorem Grow.of_clients {s s' : Sys} (h : s'.clients = s.clients) : Grow s s' :=
  fun z => getClient_congr h z ▸ CGrow.rfl' _

theorem Grow.setClient {s : Sys} {a : Acct} {c : Client} (h : CGrow (getClient s a) c) : Grow s (setClient s a c) := by
  intro z
  rw [getClient_setClient]
  split
  · next e => subst e; exact h
  · exact CGrow.rfl' _

theorem Grow.emit (s : Sys) (a : Acct) (st : Stanza) : Grow s (emit s a st) := Grow.of_clients rfl
theorem Grow.push (s : Sys) (a : Acct) (st : Stanza) : Grow s (push s a st) := Grow.of_clients rfl

theorem getClient_emit' (s : Sys) (a : Acct) (st : Stanza) (z : Acct) : getClient (emit s a st) z = getClient s z := rfl

theorem CGrow.enqueue {c0 c : Client} (h : CGrow c0 c) (n : Node) : CGrow c0 (enqueueSent c n) :=
  h.trans (CGrow.of_eq rfl rfl rfl)

theorem Extends.cgrow {c c' : Client} (h : Extends c c') : CGrow c c' :=
  ⟨fun _ he => h.1.subset he, fun _ he => h.2.1.subset he, fun _ => (h.2.2.filter _).length_le⟩

theorem ClientOp.grow {Q : Stanza → Prop} {a : Acct} {s s' : Sys} (o : ClientOp CGrow Q a s s') : Grow s s' := by
  induction o with
  | refl s => exact .rfl' s
  | set h => exact .setClient h
  | emit _ => exact .emit _ _ _
  | ctrs => exact .of_clients rfl
  | trans _ _ h1 h2 => exact h1.trans h2

theorem Grow.sendIq {s : Sys} {a : Acct} {c : Client} (h : CGrow (getClient s a) c) (mk : Nat → Stanza) (k : Cont) :
    Grow s (sendIq s a c mk k) :=
  (sendIq_op (Q := fun _ => True) (fun _ e => h.trans e.cgrow) trivial).grow

theorem Grow.sendToContact {s : Sys} {a : Acct} {c : Client} (h : CGrow (getClient s a) c) (n : Node) (peer : Acct) :
    Grow s (sendToContact s a c n peer) :=
  (sendToContact_op (Q := fun _ => True) (fun _ _ => trivial) fun _ e => h.trans e.cgrow).grow

theorem Grow.sendToGroup {s : Sys} {a : Acct} {c : Client} (h : CGrow (getClient s a) c) (n : Node) (g : Nat)
    (retry : Option (Acct × Nat)) : Grow s (sendToGroup s a c n g retry) :=
  (sendToGroup_op (Q := fun _ => True) (fun _ _ => trivial) fun _ e => h.trans e.cgrow).grow

theorem Grow.sendLayerSend (s : Sys) (a : Acct) (n : Node) : Grow s (sendLayerSend s a n) :=
  (sendLayerSend_op (Q := fun _ => True) (fun _ _ e => e.cgrow) fun _ _ => trivial).grow

theorem Grow.clientReceive (s : Sys) (r : Acct) (st : Stanza) : Grow s (clientReceive s r st) :=
  (clientReceive_op (Q := fun _ => True) (fun _ _ e => e.cgrow) (fun _ => trivial) st).grow

end Yow.E2E
