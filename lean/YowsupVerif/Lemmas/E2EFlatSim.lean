/-
  The flattened state (E2EFlat) moves like a fault-free run: the steps that involve no fault.
-/
import YowsupVerif.Lemmas.E2EFlat
namespace Yow.E2E

section
variable {ex : Bool} {accts : List Acct} {groups : List (Nat × List Acct)}

/-- The step of the flattened state gave a state whose queues are the live part of `P`, and `P z` is what is physically
queued for `z` after the step, up to stanzas that are dead by then: the flattened new state is that state. -/
theorem sim_flat {L : List (Acct × Node)} {s s' : Sys} {o2 : List (Acct × List Stanza)} {f2 : List (Nat × Acct)}
    (hT2 : TV ex accts groups L (view (s'.wo o2 f2))) (hin : ∀ z st, st ∈ queueOf o2 z → z ∈ accts) (hg : Grow s s')
    (P : Acct → List Stanza) (hq : ∀ z, queueOf o2 z = liveQ (getClient s z) (P z))
    (hP : ∀ z, liveQ (getClient s' z) (queueOf s'.outbound z) = liveQ (getClient s' z) (P z)) :
    TV ex accts groups L (view (flat s')) := by
  rw [view_flat_eq (o2 := o2) (f2 := f2)]
  · exact hT2
  · intro z
    rw [hP z, hq z]
    refine (liveQ_eq (hg z) ?_).symm
    intro st hst
    rw [← hq z] at hst
    exact live_of_unop hT2 (hin z st hst) (show st ∈ (view (s'.wo o2 f2)).outb z from hst)

theorem outbound_eq_of_frame {f : Sys → Sys} (hf : ∀ s o fl, f (s.wo o fl) = (f s).wo o fl) (s : Sys) :
    (f s).outbound = s.outbound ∧ (f s).faulted = s.faulted := by
  have h : f s = (f s).wo s.outbound s.faulted := hf s s.outbound s.faulted
  exact ⟨(congrArg Sys.outbound h).trans rfl, (congrArg Sys.faulted h).trans rfl⟩

theorem sim_appSend (hw : WFConfig accts groups) {s : Sys} {a : Acct} {n : Node}
    (hA : AInv accts groups (abs s)) (hT : TV ex accts groups s.submitted (view (flat s)))
    (hall : Allowed s (.appSend a n) = true) :
    TV ex accts groups (step s (.appSend a n)).submitted (view (flat (step s (.appSend a n)))) := by
  have h2 := appSend_TInv' hw ⟨AInv_flat hA, hT⟩ (show Allowed (flat s) (.appSend a n) = true from hall)
  have hfr : step (flat s) (.appSend a n) = (step s (.appSend a n)).wo (flat s).outbound s.faulted :=
    sendLayerSend_wo { s with submitted := s.submitted ++ [(a, n)] } (flat s).outbound s.faulted a n
  have hout : (step s (.appSend a n)).outbound = s.outbound :=
    (outbound_eq_of_frame (f := fun s => sendLayerSend s a n) (fun s o fl => sendLayerSend_wo s o fl a n) _).1
  rw [hfr] at h2
  exact sim_flat (s := s) h2.2 (fun z st hst => (h2.1.outb_ok z st hst).1)
    (Grow.sendLayerSend { s with submitted := s.submitted ++ [(a, n)] } a n) (fun z => queueOf s.outbound z)
    (queueOf_flat s) (fun z => by rw [hout])

theorem quiescent_flat {s : Sys} (h : quiescent s = true) : quiescent (flat s) = true := by
  unfold quiescent at *
  rw [Bool.and_eq_true] at h ⊢
  refine ⟨h.1, ?_⟩
  have h2 := List.all_eq_true.mp h.2
  rw [List.all_eq_true]
  intro q hq
  obtain ⟨q0, hq0, rfl⟩ := List.mem_map.mp hq
  have : q0.2 = [] := List.isEmpty_iff.mp (h2 q0 hq0)
  show (liveQ _ q0.2).isEmpty = true
  rw [this]; rfl

theorem sim_restart (hw : WFConfig accts groups) {s : Sys} {a : Acct}
    (hA : AInv accts groups (abs s)) (hT : TV ex accts groups s.submitted (view (flat s)))
    (hall : Allowed s (.restart a) = true) :
    TV ex accts groups (step s (.restart a)).submitted (view (flat (step s (.restart a)))) := by
  have hall' : Allowed (flat s) (.restart a) = true := by
    simp only [Allowed, Bool.and_eq_true] at hall ⊢
    exact ⟨⟨hall.1.1, quiescent_flat hall.1.2⟩, hall.2⟩
  have h2 := restart_TInv hw ⟨AInv_flat hA, hT⟩ hall'
  rw [show step (flat s) (.restart a) = (step s (.restart a)).wo (flat s).outbound s.faulted from rfl] at h2
  exact sim_flat (s := s) h2.2 (fun z st hst => (h2.1.outb_ok z st hst).1)
    (Grow.setClient (CGrow.of_eq rfl rfl rfl)) (fun z => queueOf s.outbound z) (queueOf_flat s) (fun _ => rfl)

end


theorem push_wo (X : Sys) (o : List (Acct × List Stanza)) (fl : List (Nat × Acct)) (y : Acct) (st : Stanza) :
    push (X.wo o fl) y st = X.wo (insert o y (queueOf o y ++ [st])) fl := rfl

/-- the server queues the same stanzas `add` whatever the queues hold: its answers are computed from its tables -/
theorem serverProcess_adds (X : Sys) (a : Acct) (st : Stanza) : ∃ add : Acct → List Stanza, ∀ o fl,
    ∃ o', serverProcess (X.wo o fl) a st = X.wo o' fl ∧ ∀ z, queueOf o' z = queueOf o z ++ add z := by
  refine ⟨queuedFor (served (registered X) (members X) a st), fun o fl => ?_⟩
  rw [serverProcess_eq]
  show ∃ o', pushAll (X.wo o fl) (served (registered X) (members X) a st) = X.wo o' fl ∧ _
  generalize served (registered X) (members X) a st = l
  induction l generalizing o with
  | nil => exact ⟨o, rfl, fun z => (List.append_nil _).symm⟩
  | cons p l ih =>
    obtain ⟨x, st'⟩ := p
    obtain ⟨o', e, q⟩ := ih (insert o x (queueOf o x ++ [st']))
    refine ⟨o', e, fun z => ?_⟩
    rw [q, queueOf_insert, queuedFor_cons]
    show _ = _ ++ ((if z = x then [st'] else []) ++ _)
    by_cases hz : z = x
    · rw [if_pos hz, if_pos hz, hz, List.append_assoc]
    · rw [if_neg hz, if_neg hz]; rfl

section
variable {ex : Bool} {accts : List Acct} {groups : List (Nat × List Acct)}

theorem sim_process (hw : WFConfig accts groups) (hnd : ∀ g ∈ groups, g.2.Nodup) {s : Sys} {a : Acct}
    (hA : AInv accts groups (abs s)) (hT : TV ex accts groups s.submitted (view (flat s)))
    (hall : Allowed s (.process a) = true) :
    TV ex accts groups (step s (.process a)).submitted (view (flat (step s (.process a)))) ∧
    (∀ z, getClient (step s (.process a)) z = getClient s z) ∧
    ∀ z, ∃ add, queueOf (step s (.process a)).outbound z = queueOf s.outbound z ++ add ∧
      ∀ st' ∈ add, dead (getClient s z) st' = false := by
  have h2 := process_TInv hw hnd ⟨AInv_flat hA, hT⟩ (show Allowed (flat s) (.process a) = true from hall)
  cases hq : queueOf s.inbound a with
  | nil =>
    have e1 : step s (.process a) = s := by simp only [step, hq]
    rw [e1]; exact ⟨hT, fun _ => rfl, fun z => ⟨[], (List.append_nil _).symm, fun st' hst' => by cases hst'⟩⟩
  | cons st rest =>
    -- both steps queue `add`: the physical one behind `s.outbound` (giving `o1`), the other behind its live part (`o2`)
    obtain ⟨add, hadd⟩ := serverProcess_adds { s with inbound := insert s.inbound a rest } a st
    obtain ⟨o1, f1, q1⟩ := hadd s.outbound s.faulted
    obtain ⟨o2, f2, q2⟩ := hadd (flat s).outbound s.faulted
    have e1 : step s (.process a) = ({ s with inbound := insert s.inbound a rest } : Sys).wo o1 s.faulted := by
      simp only [step, hq]; exact f1
    have e2 : step (flat s) (.process a) = ({ s with inbound := insert s.inbound a rest } : Sys).wo o2 s.faulted := by
      simp only [step, show queueOf (flat s).inbound a = st :: rest from hq]; exact f2
    rw [e2] at h2
    rw [e1]
    have hin : ∀ z st', st' ∈ queueOf o2 z → z ∈ accts := fun z st' hst' => (h2.1.outb_ok z st' hst').1
    have hlive : ∀ z, ∀ st' ∈ add z, dead (getClient s z) st' = false := by
      intro z st' hst'
      have hmem : st' ∈ queueOf o2 z := by rw [q2 z]; exact List.mem_append_right _ hst'
      exact live_of_unop h2.2 (hin z st' hmem) hmem
    refine ⟨?_, fun _ => rfl, fun z => ⟨add z, q1 z, hlive z⟩⟩
    refine sim_flat (s := s) h2.2 hin (fun z => CGrow.rfl' _) (fun z => queueOf o1 z) ?_ (fun _ => rfl)
    intro z
    rw [q1, q2, queueOf_flat, liveQ_append, liveQ_eq_self (hlive z)]

end

end Yow.E2E
