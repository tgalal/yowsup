/-
  Whatever a function of the send or receive layer does for client `a`, it only stores a new record for `a`, moves the
  counters and hands stanzas to `a`'s connection: `ClientOp` is the closure of these updates, with one theorem per
  function along the call tree; the server only queues stanzas (`Pushes`).  Distinct queue keys, growing histories and
  "no new retry request" are read off this shape.  That a client does not read the server's side either is a statement
  about two runs and has its own walk (E2EFlatFrame).
-/
import YowsupVerif.Lemmas.E2E
namespace Yow.E2E

def isRetry : Stanza → Bool
  | .receipt _ _ _ (.retry _) => true
  | _ => false

def Sys.ctrs (s : Sys) (k1 k2 k3 : Nat) : Sys := { s with nextCtr := k1, nextSess := k2, nextGen := k3 }

/-- `G` relates the record stored to the one it replaces, `Q` holds of every stanza handed over -/
inductive ClientOp (G : Client → Client → Prop) (Q : Stanza → Prop) (a : Acct) : Sys → Sys → Prop
  | refl (s : Sys) : ClientOp G Q a s s
  | set {s : Sys} {c : Client} : G (getClient s a) c → ClientOp G Q a s (setClient s a c)
  | emit {s : Sys} {st : Stanza} : Q st → ClientOp G Q a s (emit s a st)
  | ctrs (s : Sys) (k1 k2 k3 : Nat) : ClientOp G Q a s (s.ctrs k1 k2 k3)
  | trans {s s1 s2 : Sys} : ClientOp G Q a s s1 → ClientOp G Q a s1 s2 → ClientOp G Q a s s2

/-- the functions of the send layer work on a copy `c` of the record: every extension of `c` may be stored for `a` -/
def Fits (G : Client → Client → Prop) (s : Sys) (a : Acct) (c : Client) : Prop := ∀ c', Extends c c' → G (getClient s a) c'

section Walk
variable {G : Client → Client → Prop} {Q : Stanza → Prop} {s : Sys} {a r : Acct} {c : Client} {n : Node} {g rc : Nat}
  {p : Option Acct} {encs : List (Option Acct × Ct)}

theorem Fits.ext (h : Fits G s a c) {c' : Client} (e : Extends c c') : Fits G s a c' := fun c'' e' => h c'' (e.trans e')

theorem ClientOp.set_emit {st : Stanza} (h : G (getClient s a) c) (hq : Q st) :
    ClientOp G Q a s (Yow.E2E.emit (setClient s a c) a st) :=
  (ClientOp.set h).trans (.emit hq)

theorem ClientOp.foldl {α β : Type} (π : β → Sys) (f : β → α → β) (h : ∀ b x, ClientOp G Q a (π b) (π (f b x))) (l : List α) :
    ∀ b, ClientOp G Q a (π b) (π (l.foldl f b)) := by
  induction l with
  | nil => exact fun b => .refl _
  | cons x l ih => exact fun b => (h b x).trans (ih _)

theorem sendIq_op {mk : Nat → Stanza} {k : Cont} (h : Fits G s a c) (hmk : Q (mk c.nextIq)) :
    ClientOp G Q a s (sendIq s a c mk k) :=
  .set_emit (h _ (.of_eq rfl rfl rfl)) hmk

theorem ownSenderKey_op (h : Fits G s a c) :
    ClientOp G Q a s (ownSenderKey s c g).1 ∧ Fits G (ownSenderKey s c g).1 a (ownSenderKey s c g).2.1 := by
  unfold ownSenderKey
  split
  · exact ⟨.refl s, h⟩
  · exact ⟨.ctrs s s.nextCtr s.nextSess (s.nextGen + 1), h.ext (.of_eq rfl rfl rfl)⟩

theorem sgFirst_op {need : List Acct} (h : Fits G s a c) :
    ClientOp G Q a s (sgFirst s c n g need rc p).1 ∧ Fits G (sgFirst s c n g need rc p).1 a (sgFirst s c n g need rc p).2.1 := by
  unfold sgFirst
  split
  · exact ⟨.refl s, h⟩
  · exact ⟨(ownSenderKey_op (Q := Q) (g := g) h).1.trans (.ctrs _ _ _ _), (ownSenderKey_op (Q := Q) (g := g) h).2⟩

section Send
variable (hQ : ∀ st, isRetry st = false → Q st)
include hQ

theorem sendEnc_op (h : Fits G s a c) : ClientOp G Q a s (sendEnc s a c n encs p) :=
  .set_emit (h _ (ite_ind (P := Extends c) (.of_eq rfl rfl rfl) (.rfl' c))) (hQ _ rfl)

theorem sendToContact_op {peer : Acct} (h : Fits G s a c) : ClientOp G Q a s (sendToContact s a c n peer) := by
  unfold sendToContact
  split
  · exact .refl s
  · exact (ClientOp.ctrs s (s.nextCtr + 1) s.nextSess s.nextGen).trans (sendEnc_op hQ h)

theorem sgTail_op {s0 : Sys} {t : Sys × Client × List (Option Acct × Ct)} (h0 : ClientOp G Q a s0 t.1) (h : Fits G t.1 a t.2.1) :
    ClientOp G Q a s0 (sgTail a n g rc p t) := by
  obtain ⟨s1, c1, encs1⟩ := t
  simp only [sgTail]
  split
  · obtain ⟨h1, h2⟩ := ownSenderKey_op (Q := Q) (g := g) h
    generalize ownSenderKey s1 c1 g = os at h1 h2
    obtain ⟨s2, c2, gen⟩ := os
    exact (h0.trans h1).trans ((ClientOp.ctrs s2 (s2.nextCtr + 1) s2.nextSess s2.nextGen).trans (sendEnc_op hQ h2))
  · exact h0.trans (sendEnc_op hQ h)

theorem sgws_op {need : List Acct} (h : Fits G s a c) : ClientOp G Q a s (sendToGroupWithSessions s a c n g need rc) := by
  rw [sendToGroupWithSessions_eq]
  exact sgTail_op hQ (sgFirst_op h).1 (sgFirst_op (Q := Q) h).2

theorem ensure_op {jids : List Acct} (h : Fits G s a c) : ClientOp G Q a s (ensureSessionsAndSend s a c n g jids) := by
  unfold ensureSessionsAndSend
  dsimp only
  split
  · exact sgws_op hQ h
  · exact sendIq_op h (hQ _ rfl)

theorem sendToGroup_op {retry : Option (Acct × Nat)} (h : Fits G s a c) : ClientOp G Q a s (sendToGroup s a c n g retry) := by
  unfold sendToGroup
  split
  · exact sendIq_op h (hQ _ rfl)
  · split
    · exact sgws_op hQ h
    · exact sgws_op hQ h

theorem processPlaintext_op {retry : Option (Acct × Nat)} (h : Fits G s a c) : ClientOp G Q a s (processPlaintext s a c n retry) := by
  unfold processPlaintext
  split
  · exact sendToGroup_op hQ h
  · split
    · exact sendToContact_op hQ h
    · exact sendIq_op h (hQ _ rfl)

end Send

theorem Fits.self (hG : ∀ c c', Extends c c' → G c c') (s : Sys) (a : Acct) : Fits G s a (getClient s a) := fun _ e => hG _ _ e

variable (hG : ∀ c c', Extends c c' → G c c')
include hG

theorem sendLayerSend_op (hQ : ∀ st, isRetry st = false → Q st) : ClientOp G Q a s (sendLayerSend s a n) := by
  unfold sendLayerSend
  dsimp only
  split
  · exact .emit (hQ _ rfl)
  · exact processPlaintext_op hQ (.self hG s a)

variable {id : Nat} {peer : Dest} {part : Option Acct}

theorem resetRetries_op : ClientOp G Q r s (resetRetries s r id) := .set (hG _ _ (.of_eq rfl rfl rfl))

theorem storeSkdm_op {sender : Acct} {pl : Plain} : ClientOp G Q r s (storeSkdm s r sender pl) := by
  unfold storeSkdm
  split
  · exact .refl s
  · exact .set (hG _ _ (.of_eq rfl rfl rfl))

section Receive
variable (hR : ∀ st, Q st)
include hR

theorem showAndReceipt_op {pl : Payload} : ClientOp G Q r s (showAndReceipt s r id peer part pl) :=
  .set_emit (hG _ _ ⟨List.prefix_refl _, List.prefix_refl _, List.prefix_append _ _⟩) (hR _)

theorem surface_op {pl : Plain} : ClientOp G Q r s (surface s r id peer part pl) := by
  unfold surface
  split
  · exact showAndReceipt_op hG hR
  · exact .refl s

theorem sendRetry_op : ClientOp G Q r s (sendRetry s r id peer part) :=
  .set_emit (hG _ _ (.of_eq rfl rfl rfl)) (hR _)

theorem onDecryptFailure_op {st : Stanza} {sender : Acct} (d : Dec) :
    ClientOp G Q r s (onDecryptFailure s r st id peer part sender d) := by
  cases d with
  | ok _ => exact .refl s
  | duplicate => exact .emit (hR _)
  | invalid => exact sendRetry_op hG hR
  | noSession =>
    simp only [onDecryptFailure]
    exact sendIq_op (fun _ e => hG _ _ (Extends.trans (.of_eq rfl rfl rfl) e)) (hR _)

theorem stage2_op {st : Stanza} {sender : Acct} : ClientOp G Q r s (handleEnc.stage2 s r st id peer part sender encs) := by
  unfold handleEnc.stage2
  split
  · next ct g _ =>
    dsimp only
    have h1 : ClientOp G Q r s _ := .set (hG _ _ (groupDecrypt_spec (getClient s r) g sender ct).2.1)
    split
    · exact (h1.trans (surface_op hG hR)).trans (resetRetries_op hG)
    · exact (h1.trans (sendRetry_op hG hR)).trans (resetRetries_op hG)
    · exact h1.trans (onDecryptFailure_op hG hR _)
  · exact resetRetries_op hG

theorem handleEnc_op (st : Stanza) : ClientOp G Q r s (handleEnc s r st) := by
  cases st with
  | msg id peer part im encs pl =>
    rw [handleEnc_eq]
    cases heFirst encs with
    | none => exact stage2_op hG hR
    | some ct =>
      simp only [heMain]
      have h1 : ClientOp G Q r s _ := .set (hG _ _ (decrypt_spec (getClient s r) (whoOf peer part) ct).2.1)
      split
      · exact ((h1.trans (storeSkdm_op hG)).trans (surface_op hG hR)).trans (stage2_op hG hR)
      · exact h1.trans (onDecryptFailure_op hG hR _)
  | _ => exact .refl s

theorem processPending_op : ClientOp G Q r s (processPending s r peer part) :=
  (ClientOp.foldl id _ (fun _ st => handleEnc_op hG hR st) _ s).trans (.set (hG _ _ (.of_eq rfl rfl rfl)))

end Receive

theorem processKeys_op (asked got : List Acct) : ClientOp G Q r s (processKeys s r asked got).1 := by
  rw [processKeys_eq]
  refine ClientOp.foldl Prod.fst _ (fun acc j => ?_) asked (s, [])
  unfold keyStep
  split
  · exact (ClientOp.ctrs acc.1 acc.1.nextCtr (acc.1.nextSess + 1) acc.1.nextGen).trans (.set (hG _ _ (.of_eq rfl rfl rfl)))
  · exact .set (hG _ _ (.of_eq rfl rfl rfl))

/-- the continuation of a query runs; only the one a parked stanza waits for can emit anything but what the send layer emits -/
theorem resume_op (hQ : ∀ st, isRetry st = false → Q st) {got ms : List Acct} {k : Cont}
    (hk : ∀ x y, k = Cont.keysForPending x y → ∀ st, Q st) : ClientOp G Q r s (resume s r got ms k) := by
  have keys := fun l => processKeys_op (Q := Q) (r := r) (s := s) hG l got
  cases k with
  | keysForSend n =>
    dsimp only [resume]
    split
    · exact ite_ind (P := ClientOp G Q r s) ((keys _).trans (sendToContact_op hQ (.self hG _ r))) (keys _)
    · exact .refl s
  | keysForRetry n who count =>
    exact ite_ind (P := ClientOp G Q r s) ((keys _).trans (processPlaintext_op hQ (.self hG _ r))) (keys _)
  | keysForPending peer part =>
    exact ite_ind (P := ClientOp G Q r s) (keys _) ((keys _).trans (processPending_op hG (hk _ _ rfl)))
  | groupInfo n =>
    dsimp only [resume]
    split
    · exact ensure_op hQ (.self hG s r)
    · exact .refl s
  | keysForGroup n all l =>
    dsimp only [resume]
    split
    · exact (keys _).trans (sgws_op hQ (.self hG _ r))
    · exact .refl s

theorem onIqResult_op (hQ : ∀ st, isRetry st = false → Q st) {iq : Nat} {got ms : List Acct}
    (hk : ∀ k, lookup (getClient s r).iqReg iq = some k → ∀ x y, k = Cont.keysForPending x y → ∀ st, Q st) :
    ClientOp G Q r s (onIqResult s r iq got ms) := by
  rw [onIqResult_eq]
  split
  · exact .refl s
  · next k hk' =>
    refine ClientOp.trans ?_ (resume_op hG hQ (hk k hk'))
    exact .set (hG _ _ (.of_eq rfl rfl rfl))

theorem onReceipt_op (hQ : ∀ st, isRetry st = false → Q st) {id : Nat} {peer : Dest} {part : Option Acct} (t : RType) :
    ClientOp G Q r s (onReceipt s r id peer part t) := by
  unfold onReceipt
  dsimp only
  split
  · exact .set_emit (hG _ _ (.of_eq rfl rfl rfl)) (hQ _ rfl)
  · have h1 : ClientOp G Q r s (setClient s r (if part.isSome = true then getClient s r
        else { getClient s r with sentQueue := (getClient s r).sentQueue.filter (fun m => m.id != id) })) :=
      .set (hG _ _ (ite_ind (P := Extends (getClient s r)) (.rfl' _) (.of_eq rfl rfl rfl)))
    refine h1.trans ?_
    cases t with
    | delivery => exact .set_emit (hG _ _ (.of_eq rfl rfl rfl)) (hQ _ rfl)
    | retry count => exact (ClientOp.emit (hQ _ rfl)).trans (sendIq_op (.self hG _ r) (hQ _ rfl))

theorem clientReceive_op (hR : ∀ st, Q st) (st : Stanza) : ClientOp G Q r s (clientReceive s r st) := by
  cases st with
  | msg id peer part im encs pl =>
    show ClientOp G Q r s (if encs.isEmpty then s else handleEnc s r (.msg id peer part im encs pl))
    exact ite_ind (P := ClientOp G Q r s) (.refl s) (handleEnc_op hG hR _)
  | receipt id peer part t => exact onReceipt_op hG (fun st _ => hR st) t
  | keys iq got => exact onIqResult_op (iq := iq) (got := got) (ms := []) hG (fun st _ => hR st) (fun _ _ _ _ _ => hR)
  | groupInfo iq g ms => exact onIqResult_op (iq := iq) (got := []) (ms := ms) hG (fun st _ => hR st) (fun _ _ _ _ _ => hR)
  | _ => exact .refl s

end Walk

/-- what the server does with a stanza it reads: it queues stanzas satisfying `Q` for clients -/
inductive Pushes (Q : Stanza → Prop) : Sys → Sys → Prop
  | refl (s : Sys) : Pushes Q s s
  | push (s : Sys) (a : Acct) {st : Stanza} : Q st → Pushes Q s (push s a st)
  | trans {s s1 s2 : Sys} : Pushes Q s s1 → Pushes Q s1 s2 → Pushes Q s s2

theorem Pushes.foldl {Q : Stanza → Prop} (f : Acct → Stanza) (hf : ∀ m, Q (f m)) (l : List Acct) :
    ∀ s : Sys, Pushes Q s (l.foldl (fun acc m => Yow.E2E.push acc m (f m)) s) := by
  induction l with
  | nil => exact .refl
  | cons m l ih => exact fun s => (Pushes.push s m (hf m)).trans (ih _)

/-- the server forwards: it queues a retry request only if it read one -/
theorem serverProcess_pushes {Q : Stanza → Prop} (s : Sys) (a : Acct) {st : Stanza} (hQ : ∀ st', isRetry st' = false → Q st')
    (hr : isRetry st = true → ∀ st', Q st') : Pushes Q s (serverProcess s a st) := by
  have ack := fun id cls => Pushes.push s a (hQ (.ack id cls) rfl)
  cases st with
  | msg id dest part im encs pl =>
    cases dest with
    | user b =>
      simp only [serverProcess]
      exact ite_ind (P := Pushes Q s) ((ack id 0).trans (.push _ _ (hQ _ rfl))) (ack id 0)
    | group g =>
      simp only [serverProcess]
      cases part with
      | some p => exact ite_ind (P := Pushes Q s) ((ack id 0).trans (.push _ _ (hQ _ rfl))) (ack id 0)
      | none => exact (ack id 0).trans (.foldl _ (fun _ => hQ _ rfl) _ _)
  | receipt id peer part t =>
    have fwd : ∀ x y, Q (.receipt id x y t) := fun x y => by
      cases t with
      | delivery => exact hQ _ rfl
      | retry c => exact hr rfl _
    cases peer with
    | user b =>
      simp only [serverProcess]
      exact ite_ind (P := Pushes Q s) ((ack id 1).trans (.push _ _ (fwd _ _))) (ack id 1)
    | group g =>
      simp only [serverProcess]
      cases part with
      | some p => exact ite_ind (P := Pushes Q s) ((ack id 1).trans (.push _ _ (fwd _ _))) (ack id 1)
      | none => exact ack id 1
  | ack id k => exact .refl s
  | getKeys iq j => exact .push s a (hQ _ rfl)
  | getGroup iq g => exact .push s a (hQ _ rfl)
  | keys iq got => exact .refl s
  | groupInfo iq g ms => exact .refl s

end Yow.E2E
