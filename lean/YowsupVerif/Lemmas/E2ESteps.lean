/-
  Local behaviour of the receive path (`handleEncMessage`, layer_receive.py) under the two server faults, for ANY state (no
  invariant; the recipient need not even be registered): a ciphertext that was already opened is acknowledged again and
  not shown; a damaged one is answered with a retry request carrying the incremented counter and not shown.  Each fact
  first for any list of ciphertexts, by what `handleEnc` picks and what the decryption returns; then for the stanza the
  servers produce, the premise about the decryption coming from E2EDecOpen.
-/
import YowsupVerif.Lemmas.E2EDecOpen
namespace Yow.E2E

@[simp] private theorem getClient_emit (s : Sys) (a r : Acct) (st : Stanza) : getClient (emit s a st) r = getClient s r := rfl
@[simp] private theorem emit_wire (s : Sys) (a : Acct) (st : Stanza) : (emit s a st).wire = s.wire ++ [(a, st)] := rfl
@[simp] private theorem setClient_wire (s : Sys) (a : Acct) (c : Client) : (setClient s a c).wire = s.wire := rfl

/-- `except DuplicateMessageException` ("going to send the delivery receipt myself") -/
theorem replay_reacknowledged (s : Sys) (r : Acct) (id : Nat) (peer : Dest) (part : Option Acct) (im : Bool)
    (encs : List (Option Acct × Ct)) (pl : Option Payload) {ct : Ct} (hf : heFirst encs = some ct)
    (hd : decrypt (getClient s r) (whoOf peer part) ct = (getClient s r, .duplicate)) :
    getClient (handleEnc s r (.msg id peer part im encs pl)) r = getClient s r ∧
    (handleEnc s r (.msg id peer part im encs pl)).wire = s.wire ++ [(r, .receipt id peer part .delivery)] := by
  rw [handleEnc_eq, hf]
  simp only [heMain, hd]
  exact ⟨getClient_setClient_self s r _, rfl⟩

/-- the same exception out of `handleSenderKeyMessage` -/
theorem replay_group_reacknowledged (s : Sys) (r : Acct) (id : Nat) (part : Option Acct) (im : Bool)
    (encs : List (Option Acct × Ct)) (pl : Option Payload) {g : Nat} {k : Ct} (hf : heFirst encs = none) (hk : firstKind encs .skmsg = some k)
    (hd : groupDecrypt (getClient s r) g (whoOf (.group g) part) k = (getClient s r, .duplicate)) :
    getClient (handleEnc s r (.msg id (.group g) part im encs pl)) r = getClient s r ∧
    (handleEnc s r (.msg id (.group g) part im encs pl)).wire = s.wire ++ [(r, .receipt id (.group g) part .delivery)] := by
  rw [handleEnc_eq, hf]
  simp only [heMain, handleEnc.stage2, hk, hd]
  exact ⟨getClient_setClient_self s r _, rfl⟩

/-- `except InvalidMessageException` / `InvalidKeyIdException`: `send_retry` -/
theorem invalid_triggers_retry (s : Sys) (r : Acct) (id : Nat) (peer : Dest) (part : Option Acct) (im : Bool)
    (encs : List (Option Acct × Ct)) (pl : Option Payload) {ct : Ct} (hf : heFirst encs = some ct)
    (hd : decrypt (getClient s r) (whoOf peer part) ct = (getClient s r, .invalid)) :
    (getClient (handleEnc s r (.msg id peer part im encs pl)) r).shown = (getClient s r).shown ∧
    (handleEnc s r (.msg id peer part im encs pl)).wire =
      s.wire ++ [(r, .receipt id peer part (.retry ((lookup (getClient s r).retries id).getD 0 + 1)))] := by
  rw [handleEnc_eq, hf]
  simp only [heMain, hd, onDecryptFailure, sendRetry, getClient_emit, getClient_setClient_self, emit_wire, setClient_wire,
    and_self]

/-- no exception, `reset_retries` runs: shown to the upper layers, which answer with one delivery receipt -/
theorem opened_shown_once (s : Sys) (r : Acct) (id : Nat) (peer : Dest) (part : Option Acct) (im : Bool)
    (encs : List (Option Acct × Ct)) (pl : Option Payload) {ct : Ct} {c1 : Client} {p : Payload} (hf : heFirst encs = some ct) (hsk : firstKind encs .skmsg = none)
    (hd : decrypt (getClient s r) (whoOf peer part) ct = (c1, .ok { skdm := none, content := some p })) :
    (getClient (handleEnc s r (.msg id peer part im encs pl)) r).shown =
      c1.shown ++ [{ id := id, peer := peer, participant := part, payload := p }] ∧
    (handleEnc s r (.msg id peer part im encs pl)).wire = s.wire ++ [(r, .receipt id peer part .delivery)] := by
  rw [handleEnc_eq, hf]
  simp only [heMain, hd, storeSkdm, surface, showAndReceipt, handleEnc.stage2, hsk, resetRetries, getClient_emit,
    getClient_setClient_self, emit_wire, setClient_wire, and_self]

theorem pairwise_ne_sk {ct : Ct} (hk : ct.kind = .pkmsg ∨ ct.kind = .msg) : ct.kind ≠ .skmsg := by
  intro e
  rw [e] at hk
  rcases hk with h | h <;> cases h

theorem duplicate_reacknowledged (s : Sys) (r a : Acct) (id : Nat) (im : Bool) (ct : Ct)
    (hk : ct.kind = .pkmsg ∨ ct.kind = .msg) (hc : ct.corrupt = false)
    (hs : (getClient s r).seen.contains (ct.sess, ct.ctr) = true)
    (hsess : ct.kind = .msg → ∃ se, lookup (getClient s r).sessions a = some se ∧ (se.cur = ct.sess ∨ ct.sess ∈ se.archived)) :
    let s' := clientReceive s r (.msg id (.user a) none im [(none, ct)] none)
    (getClient s' r).shown = (getClient s r).shown ∧
    s'.wire = s.wire ++ [(r, .receipt id (.user a) none .delivery)] := by
  simp only [List.contains_eq_mem, decide_eq_true_eq] at hs
  have h := replay_reacknowledged s r id (.user a) none im _ none (heFirst_single (pairwise_ne_sk hk))
    (decrypt_dup (pairwise_ne_sk hk) hc hs hsess)
  exact ⟨congrArg Client.shown h.1, h.2⟩

theorem duplicate_group_reacknowledged (s : Sys) (r a : Acct) (g id : Nat) (im : Bool) (ct : Ct)
    (hk : ct.kind = .skmsg) (hc : ct.corrupt = false)
    (hkey : lookup (getClient s r).peerSK (g, a) = some ct.sess)
    (hs : (getClient s r).seenSK.contains (ct.sess, ct.ctr) = true) :
    let s' := clientReceive s r (.msg id (.group g) (some a) im [(none, ct)] none)
    (getClient s' r).shown = (getClient s r).shown ∧
    s'.wire = s.wire ++ [(r, .receipt id (.group g) (some a) .delivery)] := by
  simp only [List.contains_eq_mem, decide_eq_true_eq] at hs
  have h := replay_group_reacknowledged s r id (some a) im _ none (sk_single hk).1 (sk_single hk).2 (groupDecrypt_dup hkey hc hs)
  exact ⟨congrArg Client.shown h.1, h.2⟩

/-- a session on record is needed for the `msg` kind: without one the stanza would be parked -/
theorem corrupt_triggers_retry (s : Sys) (r a : Acct) (id : Nat) (im : Bool) (ct : Ct)
    (hk : ct.kind = .pkmsg ∨ ct.kind = .msg) (hc : ct.corrupt = true)
    (hsess : ct.kind = .msg → (lookup (getClient s r).sessions a).isSome = true) :
    let s' := clientReceive s r (.msg id (.user a) none im [(none, ct)] none)
    (getClient s' r).shown = (getClient s r).shown ∧
    s'.wire = s.wire ++ [(r, .receipt id (.user a) none (.retry ((lookup (getClient s r).retries id).getD 0 + 1)))] :=
  invalid_triggers_retry s r id (.user a) none im _ none (heFirst_single (pairwise_ne_sk hk))
    (decrypt_corrupt (pairwise_ne_sk hk) hc hsess)

theorem fresh_message_shown_once (s : Sys) (r a : Acct) (id : Nat) (p : Payload) (ct : Ct)
    (hk : ct.kind = .pkmsg) (hc : ct.corrupt = false) (hp : ct.plain = { skdm := none, content := some p })
    (hs : (getClient s r).seen.contains (ct.sess, ct.ctr) = false) :
    let s' := clientReceive s r (.msg id (.user a) none p.isMedia [(none, ct)] none)
    (getClient s' r).shown = (getClient s r).shown ++ [{ id := id, peer := .user a, participant := none, payload := p }] ∧
    s'.wire = s.wire ++ [(r, .receipt id (.user a) none .delivery)] := by
  simp only [List.contains_eq_mem, decide_eq_false_iff_not] at hs
  have hk' : ct.kind ≠ .skmsg := pairwise_ne_sk (Or.inl hk)
  obtain ⟨se', hd, _⟩ := decrypt_ok_full (x := a) hk' hc hs (fun h => by rw [hk] at h; cases h)
  rw [hp] at hd
  have h := opened_shown_once s r id (.user a) none p.isMedia _ none (heFirst_single hk')
    ((firstKind_single ct .skmsg).trans (if_neg hk')) hd
  exact h

end Yow.E2E
