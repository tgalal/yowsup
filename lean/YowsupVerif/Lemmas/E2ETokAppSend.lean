/-
  The application submits a message (`AxolotlSendLayer.send`).  The id is unused, so the client holds the one new token;
  after the send the invariant holds for the old submissions by the sender step and for the new one by `TV.extend`.
-/
import YowsupVerif.Lemmas.E2ETokFresh
namespace Yow.E2E

section
variable {ex : Bool} {accts : List Acct} {groups : List (Nat × List Acct)}

theorem Src.ofNew {s : Sys} {a : Acct} {n : Node}
    (hA : AInv accts groups (abs s)) (hT : TV ex accts groups s.submitted (view s)) (ha : a ∈ accts)
    (hf : ∀ p ∈ s.submitted, p.2.id ≠ n.id) :
    Src accts groups s.submitted ((view s).addSub (a, n)) a [] ((view s).outb a) (getClient s a) n none := by
  have hcg : ClientGood (view s).nextCtr (getClient s a) := hT.clients a
  exact {
    hx := ha
    hq := rfl
    uniq := fun n' hn' e => absurd e (hf _ hn')
    pend := rfl
    shown := rfl
    seen := rfl
    seenSK := rfl
    receipts := rfl
    ownSK := rfl
    cons_plain := fun st hst => by cases hst
    conts := hcg.conts
    iqKeys := hcg.iqKeys
    iq_lt := fun e he => (hA.client a).iq_lt e.1 e.2 he
    tok := by
      intro n' hn' r _
      have : ¬ n.id = n'.id := fun e => hf _ hn' e.symm
      simp only [handTok, this, false_and, if_false, sumMap_nil']
      rfl
    slot := by
      intro i
      unfold handSlot
      by_cases hi : n.id = i
      · subst hi
        have := (fresh_zero hA (hT.rids) hf a a).2.2.2
        simp only [true_or, and_self, if_true]
        omega
      · have := hT.slots a i
        simp only [hi, false_and, if_false]
        exact this
    iq_sub := fun e he => ⟨he, fun st hst => by cases hst⟩
    pend_ok := (hT.ans a).2
    kept := by
      intro n' hn' r hr
      simp only [sumMap_nil']
      exact (hT.addSub (a, n)).kept a n' hn' r hr
    kept_hand := fun hn' => absurd rfl (hf _ hn')
    ret3 := by
      intro n' hn' g hg
      rcases hT.ret3 a n' hn' g hg with h1 | h1
      · exact Or.inl h1
      · exact Or.inr (Or.inl h1)
    retq := (hT.addSub (a, n)).retq a }

theorem zero_parts {V : View} {a : Acct} {id : Nat} {r : Acct} (z1 : tokensV V a id r = 0) (z2 : receiptTokensV V a id r = 0) :
    contS id r (V.cl a).iqReg = 0 ∧ inTransitV V a id r = 0 ∧ rcptGot (V.cl a) id r = 0 := by
  rw [tokensV_eq] at z1
  unfold receiptTokensV at z2
  omega

theorem cstep_fresh (V : View) (a : Acct) (c' : Client) (out : List Stanza) (k : Nat) {id : Nat} {r : Acct} (hr : r ≠ a)
    (z1 : tokensV V a id r = 0) (z2 : receiptTokensV V a id r = 0) :
    tokensV (V.cstep a c' out k) a id r = contS id r c'.iqReg + sumMap (upTok id r) out ∧
    inTransitV (V.cstep a c' out k) a id r = sumMap (upTok id r) out ∧
    receiptTokensV (V.cstep a c' out k) a id r = rcptGot c' id r ∧
    (V.cstep a c' out k).cl r = V.cl r := by
  obtain ⟨hC, hI, hG⟩ := zero_parts z1 z2
  have d1 := tokensV_cstep V a c' out k a id r
  have d2 := inTransitV_cstep V a c' out k a id r
  have d3 := receiptTokensV_cstep V a c' out k a id r
  rw [if_pos rfl, if_neg hr, if_pos rfl, if_neg hr, hC, z1] at d1
  rw [if_neg hr, if_pos rfl, if_neg hr, hI] at d2
  rw [if_pos rfl, if_neg hr, if_pos rfl, hG, z2] at d3
  simp only [Nat.add_zero, Nat.zero_add] at d1 d2 d3
  exact ⟨d1, d2, d3, upd_ne _ _ hr⟩

section Submit
variable {s : Sys} {a : Acct} {n : Node}

theorem popOut_submitted (s : Sys) (a : Acct) (n : Node) :
    ((view s).addSub (a, n)).popOut a ((view s).outb a) = (view s).addSub (a, n) := View.popOut_self _ _

theorem view_submitted (s : Sys) (a : Acct) (n : Node) :
    view { s with submitted := s.submitted ++ [(a, n)] } =
      (((view s).addSub (a, n)).popOut a (((view s).addSub (a, n)).outb a)).cstep a (getClient s a) []
        ((view s).addSub (a, n)).nextCtr := by
  rw [View.popOut_self]
  exact (View.cstep_id _ a).symm


/-- the new submission has the token the client placed, no receipts yet, and is not sent yet or in the sent queue -/
theorem submit_step (hn : accts.Nodup) (hA : AInv accts groups (abs s)) (hT : TV ex accts groups s.submitted (view s))
    (hf : ∀ p ∈ s.submitted, p.2.id ≠ n.id) (hneq : ∀ r, r ∈ intendedG groups a n → r ≠ a)
    {c' : Client} {out : List Stanza} {k : Nat}
    (hss : SenderStep accts groups s.submitted ((view s).addSub (a, n)) a [] ((view s).outb a) c' out k)
    (htok : ∀ r, contS n.id r c'.iqReg + sumMap (upTok n.id r) out = contS n.id r (getClient s a).iqReg + 1)
    (hrc : c'.receipts = (getClient s a).receipts)
    (hkept : (∀ r, sumMap (upTok n.id r) out = 0) ∨ n ∈ c'.sentQueue)
    (hret3 : ∀ g, n.dest = .group g → (lookup c'.ownSK g).isSome = true ∨ ∃ e ∈ c'.iqReg, firstGroupCont e.2 n.id) :
    TV ex accts groups (s.submitted ++ [(a, n)]) (((view s).addSub (a, n)).cstep a c' out k) := by
  have hTa := hT.addSub (a, n)
  have h1 := TV.client_step hn hTa (hss.toCStepOK hTa)
  rw [popOut_submitted] at h1
  have hclx : (((view s).addSub (a, n)).cstep a c' out k).cl a = c' := View.cstep_cl_same _ _ _ _ _
  have hzero : ∀ r, contS n.id r (getClient s a).iqReg = 0 ∧ _ ∧ rcptGot (getClient s a) n.id r = 0 :=
    fun r => zero_parts (fresh_zero hA hT.rids hf a r).1 (fresh_zero hA hT.rids hf a r).2.1
  have hnew := fun r hr => cstep_fresh ((view s).addSub (a, n)) a c' out k (hneq r hr)
    (fresh_zero hA hT.rids hf a r).1 (fresh_zero hA hT.rids hf a r).2.1
  refine h1.extend hneq ?_ ?_ ?_ ?_
  · intro r hr
    rw [(hnew r hr).1, htok r, (hzero r).1]
  · intro r hr
    obtain ⟨_, _, p3, p4⟩ := hnew r hr
    rw [p3, p4]
    unfold rcptGot
    rw [hrc]
    exact (hzero r).2.2.trans (fresh_zero hA hT.rids hf a r).2.2.1.symm
  · intro r hr
    rw [(hnew r hr).2.1, hclx]
    rcases hkept with h2 | h2
    · exact Or.inl (h2 r)
    · exact Or.inr (Or.inl h2)
  · rw [hclx]
    exact hret3

theorem submit_asked (hn : accts.Nodup) (hA : AInv accts groups (abs s)) (hT : TV ex accts groups s.submitted (view s))
    (ha : a ∈ accts) (hf : ∀ p ∈ s.submitted, p.2.id ≠ n.id) (hneq : ∀ r, r ∈ intendedG groups a n → r ≠ a)
    {mk : Nat → Stanza} {k1 : Cont} (hmk : PlainUp (mk (getClient s a).nextIq))
    (hiq : stanzaIq (mk (getClient s a).nextIq) = some (getClient s a).nextIq)
    (hnode : contNode k1 = some (n, none)) (hshape : ContShape k1) :
    TV ex accts groups (s.submitted ++ [(a, n)])
      (view (sendIq { s with submitted := s.submitted ++ [(a, n)] } a (getClient s a) mk k1)) := by
  obtain ⟨hv, hss⟩ := (Src.ofNew hA hT ha hf).asked (hT.addSub (a, n)) (view_submitted s a n) (fun p hp => by cases hp)
    hmk hiq hnode hshape (fun _ e => by cases e)
  rw [hv, popOut_submitted]
  have hup : ∀ r, sumMap (upTok n.id r) ([] ++ [mk (getClient s a).nextIq]) = 0 := fun r => by
    simp only [List.nil_append, sumMap_cons, sumMap_nil', (hmk.2 n.id r []).1]
  refine submit_step hn hA hT hf hneq hss (fun r => ?_) rfl (Or.inl hup) (fun g hg => ?_)
  · rw [hup]
    simp only [contS, sumMap_append, sumMap_cons, sumMap_nil', contNode_tok hnode, handTok, true_or, and_self, if_true]
  · exact Or.inr ⟨_, List.mem_append_right _ (List.mem_singleton_self _), contNode_firstGroup hnode hshape hg⟩

theorem submit_sent (hn : accts.Nodup) (hA : AInv accts groups (abs s)) (hT : TV ex accts groups s.submitted (view s))
    (ha : a ∈ accts) (hf : ∀ p ∈ s.submitted, p.2.id ≠ n.id) (hneq : ∀ r, r ∈ intendedG groups a n → r ≠ a) {s' : Sys}
    (hm : MsgSent { s with submitted := s.submitted ++ [(a, n)] } a (getClient s a) n none s') :
    TV ex accts groups (s.submitted ++ [(a, n)]) (view s') := by
  obtain ⟨sk, q, encs, k, hv, hss, hnq, hown⟩ := (Src.ofNew hA hT ha hf).sent_all (hT.addSub (a, n)) (view_submitted s a n) hm
    (fun _ _ => Or.inl rfl) (Or.inl rfl) (fun m hm => List.mem_append_left _ ((hA.client a).sentQ m hm))
    (List.mem_append_right _ (List.mem_singleton_self _))
  rw [hv, popOut_submitted]
  refine submit_step hn hA hT hf hneq hss (fun r => ?_) rfl (Or.inr hnq) (fun g hg => Or.inl (hown g hg))
  simp only [sumMap_cons, sumMap_nil', upTok, true_or, and_self, if_true]

end Submit

/-- nothing is on the skip list (`skipEncJids`), so the send layer encrypts -/
theorem appSend_eq {s : Sys} {a : Acct} {n : Node} (hA : AInv accts groups (abs s)) :
    step s (.appSend a n) = processPlaintext { s with submitted := s.submitted ++ [(a, n)] } a (getClient s a) n none := by
  have hskip : (getClient s a).skipEnc = [] := (hA.client a).skip
  show (if (getClient s a).skipEnc.contains n.dest then _ else _) = _
  rw [hskip]
  rfl

theorem appSend_TInv' (hw : WFConfig accts groups) {s : Sys} {a : Acct} {n : Node}
    (h : TInv ex accts groups s) (hall : Allowed s (.appSend a n) = true) :
    TInv ex accts groups (step s (.appSend a n)) := by
  obtain ⟨hA, hT⟩ := h
  have hsub' : (step s (.appSend a n)).submitted = s.submitted ++ [(a, n)] := (step_good hA hall).2
  refine ⟨(step_good hA hall).1, ?_⟩
  simp only [Allowed, Bool.and_eq_true, Bool.not_eq_true'] at hall
  obtain ⟨⟨hra, hid⟩, hdest⟩ := hall
  have ha : a ∈ accts := (hA.reg a).mp hra
  have hf : ∀ p ∈ s.submitted, p.2.id ≠ n.id := by
    intro p hp e
    have : n.id ∈ usedIds s := List.mem_map.mpr ⟨p, hp, e⟩
    have hc : (usedIds s).contains n.id = true := by simpa using this
    rw [hc] at hid
    cases hid
  -- the sender is not among the recipients
  have hneq : ∀ r, r ∈ intendedG groups a n → r ≠ a := by
    intro r hr
    unfold intendedG at hr
    split at hdest
    · next b hb =>
      rw [hb] at hr
      simp only [List.mem_singleton] at hr
      subst hr
      simp only [Bool.and_eq_true, bne_iff_ne] at hdest
      exact hdest.2
    · next g hgd =>
      rw [hgd] at hr
      simpa using (List.mem_filter.mp hr).2
  rw [hsub', appSend_eq hA]
  have hacc : a ∈ (view { s with submitted := s.submitted ++ [(a, n)] }).accounts := hT.mem_acc ha
  refine processPlaintext_cases (P := fun s' => TV ex accts groups (s.submitted ++ [(a, n)]) (view s')) _ a _ n none
    (fun b hb hsess => submit_sent hw.1 hA hT ha hf hneq (sendToContact_sent hacc hb hsess))
    (fun b hb _ => submit_asked hw.1 hA hT ha hf hneq (PlainUp.getKeys _ _) rfl rfl (by rw [ContShape, hb]; rfl))
    (fun g hgd _ => submit_asked hw.1 hA hT ha hf hneq (PlainUp.getGroup _ _) rfl rfl (by rw [ContShape, hgd]; rfl))
    (fun g hgd _ _ => submit_sent hw.1 hA hT ha hf hneq (sgws_first_sent [] hacc hgd))
    (fun _ _ _ _ _ e => nomatch e)

theorem appSend_TInv (hw : WFConfig accts groups) {s : Sys} {a : Acct} {n : Node}
    (h : TInv ex accts groups s) (hall : Allowed s (.appSend a n) = true) (_hlen : s.submitted.length < 100) :
    TInv ex accts groups (step s (.appSend a n)) := appSend_TInv' hw h hall

end

end Yow.E2E
