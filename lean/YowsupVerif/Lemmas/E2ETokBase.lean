/-
  What token counting rests on: sums (`sumMap`) over lists and association lists, and the functional view of a system
  state (`view`) with the two forms every step takes in it: `View.cstep` (a client changes its record and emits) and
  `View.pushes` (the server queues stanzas).
-/
import YowsupVerif.Lemmas.E2E
import YowsupVerif.Model.E2ETok
namespace Yow.E2E

section Sums
variable {α : Type}

@[simp] theorem sumMap_nil' (f : α → Nat) : sumMap f [] = 0 := rfl
@[simp] theorem sumMap_cons (f : α → Nat) (x : α) (l : List α) : sumMap f (x :: l) = f x + sumMap f l := by
  simp [sumMap]
@[simp] theorem sumMap_append (f : α → Nat) (l m : List α) : sumMap f (l ++ m) = sumMap f l + sumMap f m := by
  simp [sumMap, List.sum_append]

theorem sumMap_singleton (f : α → Nat) (x : α) : sumMap f [x] = f x := by simp

theorem sumMap_eq_zero {f : α → Nat} {l : List α} (h : ∀ e ∈ l, f e = 0) : sumMap f l = 0 := by
  induction l with
  | nil => rfl
  | cons x l ih =>
    rw [sumMap_cons, h x (by simp), ih (fun e he => h e (List.mem_cons_of_mem _ he))]

theorem sumMap_congr {f g : α → Nat} {l : List α} (h : ∀ e ∈ l, f e = g e) : sumMap f l = sumMap g l := by
  induction l with
  | nil => rfl
  | cons x l ih =>
    rw [sumMap_cons, sumMap_cons, h x (by simp), ih (fun e he => h e (List.mem_cons_of_mem _ he))]

theorem sumMap_le_of_mem {f : α → Nat} {l : List α} {x : α} (h : x ∈ l) : f x ≤ sumMap f l := by
  induction l with
  | nil => cases h
  | cons y l ih =>
    rw [sumMap_cons]
    rcases List.mem_cons.mp h with e | e
    · subst e; omega
    · have := ih e; omega

theorem exists_of_sumMap_pos {f : α → Nat} {l : List α} (h : 0 < sumMap f l) : ∃ x ∈ l, 0 < f x := by
  induction l with
  | nil => simp at h
  | cons y l ih =>
    rw [sumMap_cons] at h
    by_cases hy : 0 < f y
    · exact ⟨y, by simp, hy⟩
    · obtain ⟨x, hx, hp⟩ := ih (by omega)
      exact ⟨x, List.mem_cons_of_mem _ hx, hp⟩

theorem sumMap_two_le {f : α → Nat} {l : List α} {x y : α} (hx : x ∈ l) (hy : y ∈ l) (hne : x ≠ y) :
    f x + f y ≤ sumMap f l := by
  induction l with
  | nil => cases hx
  | cons z l ih =>
    rw [sumMap_cons]
    rcases List.mem_cons.mp hx with e1 | e1 <;> rcases List.mem_cons.mp hy with e2 | e2
    · exact absurd (e1.trans e2.symm) hne
    · subst e1; have := sumMap_le_of_mem (f := f) e2; omega
    · subst e2; have := sumMap_le_of_mem (f := f) e1; omega
    · have := ih e1 e2; omega

theorem sumMap_flatMap {β : Type} (f : β → Nat) (g : α → List β) (l : List α) :
    sumMap f (l.flatMap g) = sumMap (fun e => sumMap f (g e)) l := by
  induction l with
  | nil => rfl
  | cons x l ih => simp [List.flatMap_cons, ih]

theorem count_map_flatMap {α β : Type} (g : β → Nat) (f : α → List β) (l : List α) (x : Nat) :
    ((l.flatMap f).map g).count x = sumMap (fun a => ((f a).map g).count x) l := by
  induction l with
  | nil => rfl
  | cons a l ih => simp [List.flatMap_cons, List.count_append, ih]

theorem sumMap_filter_length (p : α → Bool) (l : List α) : (l.filter p).length = sumMap (fun x => if p x then 1 else 0) l := by
  induction l with
  | nil => rfl
  | cons x l ih =>
    rw [List.filter_cons, sumMap_cons]
    split <;> simp [ih] <;> omega

theorem count_eq_sumMap [DecidableEq α] (x : α) (l : List α) : l.count x = sumMap (fun y => if y = x then 1 else 0) l := by
  induction l with
  | nil => rfl
  | cons y l ih =>
    rw [List.count_cons, sumMap_cons, ih]
    by_cases h : y = x <;> simp [h] <;> omega

theorem sumMap_update [DecidableEq α] {f g : α → Nat} {l : List α} (hn : l.Nodup) {a : α}
    (h : ∀ b, b ≠ a → f b = g b) :
    sumMap g l + (if a ∈ l then f a else 0) = sumMap f l + (if a ∈ l then g a else 0) := by
  induction l with
  | nil => simp
  | cons x l ih =>
    rw [List.nodup_cons] at hn
    rw [sumMap_cons, sumMap_cons]
    by_cases hx : x = a
    · subst hx
      rw [sumMap_congr (fun e he => (h e (fun ee => hn.1 (ee ▸ he))).symm), if_pos List.mem_cons_self, if_pos List.mem_cons_self]
      omega
    · have := ih hn.2
      have hx' : ¬ a = x := fun e => hx e.symm
      rw [h x hx]
      simp only [List.mem_cons, hx', false_or]
      omega

end Sums

section AssocSums
variable {α β : Type} [DecidableEq α]

theorem sumMap_insert {l : List (α × List β)} (hn : keysNodup l) (g : List β → Nat) (hg : g [] = 0) (k : α) (v : List β) :
    sumMap (fun e => g e.2) (insert l k v) + g ((lookup l k).getD []) = sumMap (fun e => g e.2) l + g v := by
  induction l with
  | nil => simp [insert, lookup_nil, hg]
  | cons p l ih =>
    simp only [keysNodup, List.map_cons, List.nodup_cons] at hn
    by_cases hp : p.1 = k
    · subst hp
      rw [insert_cons_eq p (fun q hq e => hn.1 (e ▸ List.mem_map_of_mem hq)), lookup_cons, if_pos rfl, sumMap_cons, sumMap_cons, Option.getD_some]
      show g v + _ + g p.2 = g p.2 + _ + g v
      ac_rfl
    · rw [insert_cons_ne hp, lookup_cons, if_neg hp, sumMap_cons, sumMap_cons, Nat.add_assoc, ih hn.2, Nat.add_assoc]

theorem sumMap_erase {l : List (α × β)} (hn : keysNodup l) (f : α × β → Nat) (k : α) :
    sumMap f (erase l k) + (match lookup l k with | some v => f (k, v) | none => 0) = sumMap f l := by
  induction l with
  | nil => rfl
  | cons p l ih =>
    simp only [keysNodup, List.map_cons, List.nodup_cons] at hn
    by_cases hp : p.1 = k
    · subst hp
      rw [erase_cons_eq, erase_of_fresh (fun q hq (e : q.1 = p.1) => hn.1 (e ▸ List.mem_map_of_mem hq)), lookup_cons, if_pos rfl, sumMap_cons]
      exact Nat.add_comm _ _
    · rw [erase_cons_ne hp, lookup_cons, if_neg hp, sumMap_cons, sumMap_cons, Nat.add_assoc, ih hn.2]

theorem sumMap_park {α : Type} [DecidableEq α] {l : List (α × List Stanza)} (hn : keysNodup l) (f : Stanza → Nat) (k : α)
    (st : Stanza) :
    sumMap (fun e => sumMap f e.2) (insert l k ((lookup l k).getD [] ++ [st])) = sumMap (fun e => sumMap f e.2) l + f st := by
  have := sumMap_insert hn (fun l => sumMap f l) rfl k ((lookup l k).getD [] ++ [st])
  simp only [sumMap_append, sumMap_cons, sumMap_nil'] at this
  omega

theorem sumMap_erase_getD {α : Type} [DecidableEq α] {l : List (α × List Stanza)} (hn : keysNodup l) (f : List Stanza → Nat)
    (hf : f [] = 0) (k : α) :
    sumMap (fun e => f e.2) (erase l k) + f ((lookup l k).getD []) = sumMap (fun e => f e.2) l := by
  have := sumMap_erase hn (fun e => f e.2) k
  cases hl : lookup l k with
  | none => rw [hl] at this; simp only [Option.getD_none, hf]; omega
  | some v => rw [hl] at this; simp only [Option.getD_some]; exact this

end AssocSums

def upd {β : Type} (f : Acct → β) (a : Acct) (v : β) : Acct → β := fun b => if b = a then v else f b

@[simp] theorem upd_upd {β : Type} (f : Acct → β) (a : Acct) (v w : β) : upd (upd f a v) a w = upd f a w := by
  funext b; unfold upd; split <;> rfl

@[simp] theorem upd_same {β : Type} (f : Acct → β) (a : Acct) (v : β) : upd f a v a = v := by simp [upd]
theorem upd_ne {β : Type} (f : Acct → β) {a b : Acct} (v : β) (h : b ≠ a) : upd f a v b = f b := by simp [upd, h]
theorem upd_apply {β : Type} (f : Acct → β) (a b : Acct) (v : β) : upd f a v b = if b = a then v else f b := rfl
@[simp] theorem upd_self {β : Type} (f : Acct → β) (a : Acct) : upd f a (f a) = f := by
  funext b; unfold upd; split
  · next e => rw [e]
  · rfl
theorem upd_sum {β : Type} (g : β → Nat) (f : Acct → β) (x : Acct) (v : β) (a : Acct) :
    g (upd f x v a) + (if a = x then g (f x) else 0) = g (f a) + (if a = x then g v else 0) := by
  rw [upd_apply]
  split
  · next e => rw [e, Nat.add_comm]
  · rfl

theorem ite_add_zero (p : Prop) [Decidable p] (m n : Nat) :
    (if p then m + n else 0) = (if p then m else 0) + (if p then n else 0) := by
  split <;> rfl

theorem sumMap_upd_append {β : Type} (g : β → Nat) (f : Acct → List β) (x : Acct) (out : List β) (a : Acct) :
    sumMap g (upd f x (f x ++ out) a) = sumMap g (f a) + (if a = x then sumMap g out else 0) := by
  rw [upd_apply]
  split
  · next e => rw [e, sumMap_append]
  · rfl

theorem sumMap_upd_rest {β : Type} {f : Acct → List β} {x : Acct} {cons rest : List β} (hq : f x = cons ++ rest) (g : β → Nat)
    (a : Acct) : sumMap g (upd f x rest a) + (if a = x then sumMap g cons else 0) = sumMap g (f a) := by
  rw [upd_apply]
  split
  · next e => rw [e, hq, sumMap_append, Nat.add_comm]
  · rfl

theorem sumMap_others_upd {accts : List Acct} (hn : accts.Nodup) (g : Stanza → Nat) (f : Acct → List Stanza) (x r : Acct)
    (new : List Stanza) :
    sumMap (fun a => if a = r then 0 else sumMap g (upd f x new a)) accts + (if x ∈ accts ∧ x ≠ r then sumMap g (f x) else 0)
    = sumMap (fun a => if a = r then 0 else sumMap g (f a)) accts + (if x ∈ accts ∧ x ≠ r then sumMap g new else 0) := by
  have e (S : Nat) : (if x ∈ accts then (if x = r then 0 else S) else 0) = if x ∈ accts ∧ x ≠ r then S else 0 := by
    by_cases hx : x ∈ accts <;> by_cases hr : x = r <;> simp [hx, hr]
  have := sumMap_update (f := fun a => if a = r then 0 else sumMap g (f a))
    (g := fun a => if a = r then 0 else sumMap g (upd f x new a)) hn (a := x) (fun b hb => by simp only [upd_ne _ _ hb])
  simp only [upd_same, e] at this
  exact this

/-- what the token invariant reads of a system state, association lists read as functions -/
@[ext] structure View where
  cl : Acct → Client
  inb : Acct → List Stanza
  outb : Acct → List Stanza
  groups : List (Nat × List Acct)
  nextCtr : Nat
  submitted : List (Acct × Node)
  accounts : List Acct

def accountsOf (s : Sys) : List Acct := s.clients.map Prod.fst

def view (s : Sys) : View :=
  ⟨getClient s, fun a => queueOf s.inbound a, fun a => queueOf s.outbound a, s.groups, s.nextCtr, s.submitted, s.clients.map Prod.fst⟩

namespace View
/-- a client changes its record, emits stanzas (and nonces are used up) -/
def cstep (V : View) (x : Acct) (c : Client) (out : List Stanza) (k : Nat) : View :=
  { V with cl := upd V.cl x c, inb := upd V.inb x (V.inb x ++ out), nextCtr := k }
def popOut (V : View) (x : Acct) (rest : List Stanza) : View := { V with outb := upd V.outb x rest }
def popIn (V : View) (x : Acct) (rest : List Stanza) : View := { V with inb := upd V.inb x rest }
def pushes (V : View) (add : Acct → List Stanza) : View := { V with outb := fun b => V.outb b ++ add b }
def addSub (V : View) (p : Acct × Node) : View := { V with submitted := V.submitted ++ [p] }
def setCtr (V : View) (k : Nat) : View := { V with nextCtr := k }

theorem popOut_cl (V : View) (x : Acct) (rest : List Stanza) : (V.popOut x rest).cl = V.cl := rfl
theorem popOut_groups (V : View) (x : Acct) (rest : List Stanza) : (V.popOut x rest).groups = V.groups := rfl

@[simp] theorem cstep_cl_same (V : View) (x : Acct) (c : Client) (out : List Stanza) (k : Nat) : (V.cstep x c out k).cl x = c := by
  simp [cstep]
@[simp] theorem cstep_nextCtr (V : View) (x : Acct) (c : Client) (out : List Stanza) (k : Nat) : (V.cstep x c out k).nextCtr = k := rfl
@[simp] theorem cstep_accounts (V : View) (x : Acct) (c : Client) (out : List Stanza) (k : Nat) : (V.cstep x c out k).accounts = V.accounts := rfl
@[simp] theorem cstep_submitted (V : View) (x : Acct) (c : Client) (out : List Stanza) (k : Nat) : (V.cstep x c out k).submitted = V.submitted := rfl
@[simp] theorem cstep_groups (V : View) (x : Acct) (c : Client) (out : List Stanza) (k : Nat) : (V.cstep x c out k).groups = V.groups := rfl
@[simp] theorem cstep_outb (V : View) (x : Acct) (c : Client) (out : List Stanza) (k : Nat) : (V.cstep x c out k).outb = V.outb := rfl

@[simp] theorem cstep_cstep (V : View) (x : Acct) (c1 c2 : Client) (o1 o2 : List Stanza) (k1 k2 : Nat) :
    (V.cstep x c1 o1 k1).cstep x c2 o2 k2 = V.cstep x c2 (o1 ++ o2) k2 := by
  simp [cstep, List.append_assoc]

@[simp] theorem setCtr_cstep (V : View) (x : Acct) (c : Client) (o : List Stanza) (k k' : Nat) :
    (V.setCtr k).cstep x c o k' = V.cstep x c o k' := rfl

@[simp] theorem setCtr_nextCtr (V : View) (k : Nat) : (V.setCtr k).nextCtr = k := rfl
@[simp] theorem setCtr_accounts (V : View) (k : Nat) : (V.setCtr k).accounts = V.accounts := rfl
@[simp] theorem setCtr_cl (V : View) (k : Nat) : (V.setCtr k).cl = V.cl := rfl
@[simp] theorem setCtr_submitted (V : View) (k : Nat) : (V.setCtr k).submitted = V.submitted := rfl

theorem cstep_id (V : View) (x : Acct) : V.cstep x (V.cl x) [] V.nextCtr = V := by
  simp [cstep]

section Step
variable (V : View) (x : Acct) (q : List Stanza) (c : Client) (out : List Stanza) (k : Nat)

theorem step_same : ((V.popOut x q).cstep x c out k).cl x = c ∧ ((V.popOut x q).cstep x c out k).inb x = V.inb x ++ out ∧
    ((V.popOut x q).cstep x c out k).outb x = q :=
  ⟨if_pos rfl, if_pos rfl, if_pos rfl⟩

theorem step_other {r : Acct} (h : r ≠ x) : ((V.popOut x q).cstep x c out k).cl r = V.cl r ∧
    ((V.popOut x q).cstep x c out k).inb r = V.inb r ∧ ((V.popOut x q).cstep x c out k).outb r = V.outb r :=
  ⟨if_neg h, if_neg h, if_neg h⟩

end Step

end View

theorem View.popOut_self (V : View) (x : Acct) : V.popOut x (V.outb x) = V := by
  simp [View.popOut]

theorem queueOf_insert_upd (q : List (Acct × List Stanza)) (x : Acct) (l : List Stanza) :
    queueOf (insert q x l) = upd (queueOf q) x l :=
  queueOf_insert_fun q x l

theorem view_setClient (s : Sys) (x : Acct) (c : Client) (hx : x ∈ (view s).accounts) :
    view (setClient s x c) = (view s).cstep x c [] (view s).nextCtr := by
  have hacc : (insert s.clients x c).map Prod.fst = s.clients.map Prod.fst := by
    rw [keys_insert', if_pos]
    exact (mem_keys_iff_any _ _).mpr hx
  have hcl : getClient (setClient s x c) = upd (getClient s) x c := funext fun b => by rw [getClient_setClient]; rfl
  rw [View.cstep, List.append_nil, upd_self]
  exact congr (congrArg (fun f acc => { view s with cl := f, accounts := acc }) hcl) hacc

theorem view_emit (s : Sys) (x : Acct) (st : Stanza) :
    view (emit s x st) = (view s).cstep x ((view s).cl x) [st] (view s).nextCtr := by
  rw [View.cstep, upd_self]
  exact congrArg (fun f => { view s with inb := f }) (queueOf_insert_upd s.inbound x _)

theorem view_push (s : Sys) (x : Acct) (st : Stanza) :
    view (push s x st) = (view s).pushes (fun b => if b = x then [st] else []) := by
  refine congrArg (fun f => { view s with outb := f }) (funext fun b => ?_)
  show queueOf (insert s.outbound x _) b = queueOf s.outbound b ++ if b = x then [st] else []
  rw [queueOf_insert]
  split
  · next e => rw [e]
  · exact (List.append_nil _).symm

theorem view_setInbound (s : Sys) (x : Acct) (l : List Stanza) :
    view { s with inbound := insert s.inbound x l } = (view s).popIn x l :=
  congrArg (fun f => { view s with inb := f }) (queueOf_insert_upd s.inbound x l)

theorem view_setOutbound (s : Sys) (x : Acct) (l : List Stanza) :
    view { s with outbound := insert s.outbound x l } = (view s).popOut x l :=
  congrArg (fun f => { view s with outb := f }) (queueOf_insert_upd s.outbound x l)

@[simp] theorem view_nextCtr (s : Sys) (k : Nat) : view { s with nextCtr := k } = (view s).setCtr k := rfl
@[simp] theorem view_nextSess (s : Sys) (k : Nat) : view { s with nextSess := k } = view s := rfl
@[simp] theorem view_nextGen (s : Sys) (k : Nat) : view { s with nextGen := k } = view s := rfl
@[simp] theorem view_faulted (s : Sys) (k : List (Nat × Acct)) : view { s with faulted := k } = view s := rfl
theorem view_addSub (s : Sys) (p : Acct × Node) : view { s with submitted := s.submitted ++ [p] } = (view s).addSub p := rfl

@[simp] theorem view_cl (s : Sys) (a : Acct) : (view s).cl a = getClient s a := rfl

theorem getClient_of_view {s s' : Sys} {y : Acct} {Q : List Stanza} {c' : Client} {out : List Stanza} {k : Nat}
    (hv : view s' = ((view s).popOut y Q).cstep y c' out k) (z : Acct) :
    getClient s' z = if z = y then c' else getClient s z := by
  have : (view s').cl z = upd (getClient s) y c' z := by rw [hv]; rfl
  exact this

/-! The stanza at the head of `y`'s queue is a message stanza. -/

end Yow.E2E
