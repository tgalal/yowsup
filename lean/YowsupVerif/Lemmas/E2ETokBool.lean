/-
  The Prop-valued token invariant `TInv` (E2ETokInv) implies the executable one `tokInv` (Model/E2ETok), conjunct by
  conjunct; with E2ETokRun this gives `tokInv` after every bounded fault-free run.
-/
import YowsupVerif.Lemmas.E2ETokRun
namespace Yow.E2E

theorem count_ctsTo (s : Sys) (r : Acct) (x : Nat) :
    ((ctsTo s r).map (·.ctr)).count x = wayV (accounts s) (view s) r x := by
  unfold ctsTo wayV
  rw [List.map_append, List.count_append, count_map_flatMap, count_map_flatMap, sumMap_append]
  have h1 : ∀ st : Stanza, (((ctsOf st).map Prod.snd).map (·.ctr)).count x = nOf x st := by
    intro st; unfold nOf ctrsOf; rw [List.map_map]; rfl
  simp only [h1]
  have h2 : sumMap (nOf x) (parkedAt s r) = pendN x ((view s).cl r).pendingIn := by
    unfold parkedAt pendN
    rw [sumMap_flatMap]
    rfl
  rw [h2]
  congr 1
  apply sumMap_congr
  intro a _
  split
  · rfl
  · rw [count_map_flatMap]
    apply sumMap_congr
    intro st _
    show ((if upGuard (view s).groups r st then ctsFor r st else []).map (·.ctr)).count x = upN (view s).groups r x st
    unfold upN
    split <;> simp

section
variable {ex : Bool} {accts : List Acct} {groups : List (Nat × List Acct)}

theorem TInv.accounts {s : Sys} (h : TInv ex accts groups s) : accounts s = accts := h.2.acc

/-- a test of every client record: the table holds each account once, with the record `getClient` finds -/
theorem all_clients (hn : accts.Nodup) {s : Sys} (h : TInv ex accts groups s) {f : Acct × Client → Bool}
    (hf : ∀ a, f (a, getClient s a) = true) : s.clients.all f = true := by
  rw [List.all_eq_true]
  intro p hp
  have hnd : keysNodup s.clients := by unfold keysNodup; rw [show s.clients.map Prod.fst = accts from h.2.acc]; exact hn
  have hcl : getClient s p.1 = p.2 := by unfold getClient; rw [lookup_of_mem hnd hp]; rfl
  exact (show p = (p.1, getClient s p.1) by rw [hcl]) ▸ hf p.1

theorem mem_allStanzas {s : Sys} {st : Stanza} (h : st ∈ allStanzas s) :
    ∃ a, a ∈ accounts s ∧ (st ∈ queueOf s.inbound a ∨ st ∈ queueOf s.outbound a ∨ st ∈ parkedAt s a) := by
  unfold allStanzas at h
  obtain ⟨a, ha, hst⟩ := List.mem_flatMap.mp h
  refine ⟨a, ha, ?_⟩
  simp only [List.mem_append] at hst
  rcases hst with (h1 | h1) | h1
  · exact Or.inl h1
  · exact Or.inr (Or.inl h1)
  · exact Or.inr (Or.inr h1)

theorem mem_parkedAt {s : Sys} {r : Acct} {st : Stanza} (h : st ∈ parkedAt s r) :
    ∃ e, e ∈ (getClient s r).pendingIn ∧ st ∈ e.2 := by
  unfold parkedAt at h
  exact List.mem_flatMap.mp h

theorem TInv.stanza_ok {s : Sys} (h : TInv ex accts groups s) {st : Stanza} (hst : st ∈ allStanzas s) :
    CtsOK s.nextCtr st ∧ ∀ id peer part cnt, st = .receipt id peer part (.retry cnt) → 1 ≤ cnt := by
  obtain ⟨a, _, h1 | h1 | h1⟩ := mem_allStanzas hst
  · have := h.2.ups a st h1
    exact ⟨this.cts, this.retry⟩
  · have := h.2.downs a st h1
    exact ⟨this.cts, fun id peer part cnt e => (this.rcpt id peer part _ e).2.2 cnt rfl⟩
  · obtain ⟨e, he, hse⟩ := mem_parkedAt h1
    obtain ⟨⟨id, im, encs, pl, rfl⟩, h2, _⟩ := (h.2.clients a).parked e he st hse
    exact ⟨h2, fun _ _ _ _ e' => by cases e'⟩

theorem tinv_noCorrupt {s : Sys} (h : TInv ex accts groups s) : noCorrupt s = true := by
  unfold noCorrupt allCts
  rw [List.all_eq_true]
  intro ct hct
  obtain ⟨st, hst, hc⟩ := List.mem_flatMap.mp hct
  obtain ⟨e, he, rfl⟩ := List.mem_map.mp hc
  have := ((h.stanza_ok hst).1 e he).1
  simp [this]

theorem tinv_noncesBelow (hn : accts.Nodup) {s : Sys} (h : TInv ex accts groups s) : noncesBelow s = true := by
  unfold noncesBelow allCts
  rw [Bool.and_eq_true, List.all_eq_true]
  refine ⟨?_, all_clients hn h fun a => ?_⟩
  · intro ct hct
    obtain ⟨st, hst, hc⟩ := List.mem_flatMap.mp hct
    obtain ⟨e, he, rfl⟩ := List.mem_map.mp hc
    have := ((h.stanza_ok hst).1 e he).2
    simpa using this
  · have hcg : ClientGood s.nextCtr (getClient s a) := h.2.clients a
    rw [Bool.and_eq_true, List.all_eq_true, List.all_eq_true]
    exact ⟨fun e he => by simpa using hcg.seen e he, fun e he => by simpa using hcg.seenSK e he⟩

theorem tinv_unopened {s : Sys} (h : TInv ex accts groups s) : unopened s = true := by
  unfold unopened
  rw [List.all_eq_true]
  intro r hr
  have hacc := h.accounts
  have hr' : r ∈ accts := by rw [← hacc]; exact hr
  have hu := h.2.unop r hr'
  simp only [Bool.and_eq_true, decide_eq_true_eq, List.all_eq_true]
  constructor
  · rw [List.nodup_iff_count]
    intro x
    rw [count_ctsTo, hacc]
    exact (hu x).1
  · intro x hx
    have hpos : 1 ≤ ((ctsTo s r).map (·.ctr)).count x := List.count_pos_iff.mpr hx
    rw [count_ctsTo, hacc] at hpos
    have := (hu x).2 hpos
    simp only [Bool.not_eq_true', List.contains_eq_mem, decide_eq_false_iff_not]
    exact this

end


theorem find_append_sk {l : List Ct} {k : Ct} (hl : ∀ c ∈ l, c.kind ≠ .skmsg) (hk : k.kind = .skmsg) :
    firstSk (l ++ [k]) = some k :=
  find?_append_singleton_pos (fun c hc => beq_eq_false_iff_ne.mpr (hl c hc)) (beq_iff_eq.mpr hk)

theorem firstPk_append_sk {l : List Ct} {k : Ct} (hk : k.kind = .skmsg) : firstPk (l ++ [k]) = firstPk l := by
  unfold firstPk
  rw [find?_append_singleton_neg (p := fun c => c.kind == .pkmsg) l (beq_eq_false_iff_ne.mpr (fun e => nomatch hk.symm.trans e)),
    find?_append_singleton_neg (p := fun c => c.kind == .msg) l (beq_eq_false_iff_ne.mpr (fun e => nomatch hk.symm.trans e))]

theorem firstPk_mem {l : List Ct} {c : Ct} (h : firstPk l = some c) : c ∈ l := by
  unfold firstPk at h
  split at h
  · next c' hc' => cases h; exact List.mem_of_find?_eq_some hc'
  · exact List.mem_of_find?_eq_some h

theorem shapeDown_B {l : List (Option Acct × Ct)} {k : Ct} (hl : ∀ e ∈ l, e.2.kind ≠ .skmsg ∧ e.2.plain.content = none)
    (hk1 : k.kind = .skmsg) (hk2 : k.plain.content.isSome = true) :
    shapeDown true ((l ++ [((none : Option Acct), k)]).map Prod.snd) = true := by
  have hl' : ∀ c ∈ l.map Prod.snd, c.kind ≠ .skmsg ∧ c.plain.content = none := by
    intro c hc
    obtain ⟨e, he, rfl⟩ := List.mem_map.mp hc
    exact hl e he
  rw [List.map_append]
  show shapeDown true (l.map Prod.snd ++ [k]) = true
  unfold shapeDown
  rw [find_append_sk (fun c hc => (hl' c hc).1) hk1, firstPk_append_sk hk1]
  cases hf : firstPk (l.map Prod.snd) with
  | none => simp [hk2]
  | some c =>
    have := (hl' c (firstPk_mem hf)).2
    simp [hk2, this]

theorem shapeDown_A {encs : List (Option Acct × Ct)} (h : ShapeA encs) (b : Bool) :
    shapeDown b (encs.map Prod.snd) = true ∧ encs.all (fun e => e.1.isNone) = true := by
  obtain ⟨ct, rfl, hk, hc⟩ := h
  refine ⟨?_, by simp⟩
  unfold shapeDown firstSk firstPk
  cases hkind : ct.kind
  · simp [hkind, hc]
  · simp [hkind, hc]
  · exact absurd hkind hk

section
variable {ex : Bool} {accts : List Acct} {groups : List (Nat × List Acct)}

theorem downShape_bool {id : Nat} {peer : Dest} {part : Option Acct} {im : Bool} {encs : List (Option Acct × Ct)}
    {pl : Option Payload} (h : DownShape (.msg id peer part im encs pl)) :
    (shapeDown (isGroupDest peer) (encs.map Prod.snd) && encs.all (fun e => e.1.isNone)) = true := by
  rcases h with h | ⟨hg, l, k, rfl, hk1, hk2, hl⟩
  · obtain ⟨h1, h2⟩ := shapeDown_A h (isGroupDest peer)
    rw [h1, h2]; rfl
  · rw [hg, Bool.and_eq_true]
    constructor
    · exact shapeDown_B (fun e he => (hl e he).2) hk1 hk2
    · rw [List.all_eq_true]
      intro e he
      rcases List.mem_append.mp he with h1 | h1
      · rw [(hl e h1).1]; rfl
      · rw [List.mem_singleton] at h1; subst h1; rfl

theorem tinv_shapes {s : Sys} (h : TInv ex accts groups s) : shapes s = true := by
  unfold shapes
  rw [List.all_eq_true]
  intro r _
  rw [Bool.and_eq_true, List.all_eq_true, List.all_eq_true]
  constructor
  · intro st hst
    have hds : DownShape st := by
      rcases List.mem_append.mp hst with h1 | h1
      · exact (h.2.downs r st h1).shape
      · obtain ⟨e, he, hse⟩ := mem_parkedAt h1
        exact ((h.2.clients r).parked e he st hse).2.2
    cases st with
    | msg id peer part im encs pl => exact downShape_bool hds
    | _ => rfl
  · intro st hst
    have hus := (h.2.ups r st hst).shape
    cases st with
    | msg id dest part im encs pl =>
      cases dest with
      | user b =>
        obtain ⟨hp, hA⟩ := hus
        obtain ⟨h1, h2⟩ := shapeDown_A hA false
        simp only [hp, h1, h2]
        rfl
      | group g =>
        cases part with
        | some p =>
          obtain ⟨h1, h2⟩ := shapeDown_A hus true
          simp only [h1, h2]
          rfl
        | none =>
          obtain ⟨l, k, rfl, hk1, hk2, hl⟩ := hus
          simp only
          rw [List.all_eq_true]
          intro m _
          -- the recipient's selection keeps the sender-key ciphertext at the end
          rw [List.filter_append]
          exact shapeDown_B (fun e he => (hl e (List.mem_filter.mp he).1).2) hk1 hk2
    | _ => rfl

theorem all_submitted {s : Sys} (h : TInv ex accts groups s) {f : Acct × Node → Acct → Bool}
    (hf : ∀ a n, (a, n) ∈ s.submitted → ∀ r, r ∈ intendedG groups a n → f (a, n) r = true) :
    s.submitted.all (fun p => (intended s p.1 p.2).all (f p)) = true := by
  rw [List.all_eq_true]
  intro p hp
  rw [List.all_eq_true]
  intro r hr
  rw [intended_eq, show s.groups = groups from h.1.grp] at hr
  exact hf p.1 p.2 hp r hr

theorem tinv_conserved {s : Sys} (h : TInv ex accts groups s) : conserved s = true :=
  all_submitted h fun a n hn r hr => by simpa [tokens_eq] using h.2.cons a n hn r hr

theorem tinv_receiptsConserved {s : Sys} (h : TInv true accts groups s) : receiptsConserved s = true :=
  all_submitted h fun a n hn r hr => by
    rw [receiptTokens_eq, shownCount_eq]
    simpa [rcRel] using h.2.rcons a n hn r hr

theorem tinv_answerable (hn : accts.Nodup) {s : Sys} (h : TInv ex accts groups s) : answerable s = true :=
  all_clients hn h fun a => by
    have ha := h.2.ans a
    rw [Bool.and_eq_true, List.all_eq_true, List.all_eq_true]
    constructor
    · intro e he
      obtain ⟨st, hst, hiq⟩ := ha.1 e he
      rw [List.any_eq_true]
      exact ⟨st, hst, by simpa using hiq⟩
    · intro e he
      obtain ⟨k, hk, hkk⟩ := ha.2 e he
      rw [List.any_eq_true]
      exact ⟨k, hk, by simpa using hkk⟩

theorem tinv_keptForRetry {s : Sys} (h : TInv ex accts groups s) (hlen : s.submitted.length ≤ 100) : keptForRetry s = true :=
  all_submitted h fun a n hn r hr => by
    rcases h.2.kept a n hn r hr with h1 | h1 | h1
    · rw [inTransit_eq, h1]; rfl
    · rw [show (getClient s a).sentQueue.contains n = true by simpa using h1, Bool.or_true]
    · exact absurd hlen (Nat.not_le.mpr h1)

theorem tinv_receiptsHonest {s : Sys} (h : TInv ex accts groups s) : receiptsHonest s = true := by
  unfold receiptsHonest
  rw [Bool.and_eq_true, List.all_eq_true, List.all_eq_true]
  constructor
  · intro r _
    rw [List.all_eq_true]
    intro st hst
    have := (h.2.ups r st hst).honest
    cases st with
    | receipt id peer part t =>
      cases t with
      | delivery => simpa [shownCount_eq] using this id peer part rfl
      | retry c => rfl
    | _ => rfl
  · intro a _
    rw [List.all_eq_true]
    intro st hst
    have := (h.2.downs a st hst).rcpt
    cases st with
    | receipt id peer part t =>
      cases t with
      | retry c => cases peer <;> cases part <;> rfl
      | delivery =>
        have h1 := (this id peer part _ rfl).2.1 rfl
        cases peer with
        | user r =>
          cases part with
          | none => simpa [shownCount_eq, whoOf] using h1
          | some p => rfl
        | group g =>
          cases part with
          | none => rfl
          | some p => simpa [shownCount_eq, whoOf] using h1
    | _ => rfl

theorem tinv_retriesSane (hn : accts.Nodup) {s : Sys} (h : TInv ex accts groups s) : retriesSane s = true := by
  unfold retriesSane
  rw [Bool.and_eq_true, Bool.and_eq_true]
  refine ⟨⟨List.all_eq_true.mpr ?_, all_clients hn h fun a => ?_⟩, List.all_eq_true.mpr ?_⟩
  · intro st hst
    have := (h.stanza_ok hst).2
    cases st with
    | receipt id peer part t =>
      cases t with
      | delivery => rfl
      | retry c => simpa using this id peer part c rfl
    | _ => rfl
  · rw [List.all_eq_true]
    intro e he
    have := (h.2.clients a).conts e he
    cases hk : e.2 with
    | keysForRetry n w c => rw [hk] at this; simpa [ContShape] using this
    | _ => rfl
  · intro p hp
    cases hd : p.2.dest with
    | user b => rfl
    | group g =>
      simp only
      rcases h.2.ret3 p.1 p.2 hp g hd with h1 | ⟨e, he, hf⟩
      · have : (lookup (getClient s p.1).ownSK g).isSome = true := h1
        rw [this]; rfl
      · rw [Bool.or_eq_true]
        right
        rw [List.any_eq_true]
        refine ⟨e, he, ?_⟩
        cases hk : e.2 with
        | groupInfo n => rw [hk] at hf; simpa [firstGroupCont] using hf
        | keysForGroup n all l => rw [hk] at hf; simpa [firstGroupCont] using hf
        | _ => rw [hk] at hf; exact hf.elim

theorem tinv_queueSane (hn : accts.Nodup) {s : Sys} (h : TInv ex accts groups s) : queueSane s = true :=
  all_clients hn h fun a => by
    have hnd : ((getClient s a).sentQueue.map (·.id)).Nodup := by
      rw [List.nodup_iff_count]
      intro i
      have := h.2.slots a i
      unfold sendSlots at this
      rw [sentS_eq_count] at this
      exact Nat.le_trans (Nat.le_add_left _ _) this
    have hsub : (getClient s a).sentQueue.map (·.id) ⊆ s.submitted.map (fun q => q.2.id) := by
      intro i hi
      obtain ⟨m, hm, rfl⟩ := List.mem_map.mp hi
      exact List.mem_map.mpr ⟨(a, m), (h.1.client a).sentQ m hm, rfl⟩
    have hle : (getClient s a).sentQueue.length ≤ s.submitted.length := by
      simpa using List.Nodup.length_le_of_subset hnd hsub
    simp [hnd, hle]

theorem tinv_tokInv (hn : accts.Nodup) {s : Sys} (h : TInv true accts groups s) (hlen : s.submitted.length ≤ 100) : tokInv s = true := by
  unfold tokInv
  rw [tinv_conserved h, tinv_receiptsConserved h, tinv_answerable hn h, tinv_noCorrupt h, tinv_noncesBelow hn h, tinv_unopened h,
    tinv_shapes h, tinv_keptForRetry h hlen, tinv_receiptsHonest h, tinv_retriesSane hn h, tinv_queueSane hn h]
  rfl

end

end Yow.E2E
