/-
  The delivery of a stanza to a client (`deliver a none`) preserves the token invariant, one case per kind of stanza.  Two
  cases take work, and both are "prepare the record, handle stanzas" (E2ETokRecvStep): a message stanza is delivered, and
  the keys for parked stanzas arrive.  The other answers to queries are E2ETokIq's.
-/
import YowsupVerif.Lemmas.E2ETokRecvStep
import YowsupVerif.Lemmas.E2ETokAppSend
namespace Yow.E2E

section
variable {ex : Bool} {accts : List Acct} {groups : List (Nat × List Acct)}

theorem ctrs_unopened {L : List (Acct × Node)} {V : View} (hT : TV ex accts groups L V) {z : Acct} (hz : z ∈ accts)
    {id : Nat} {peer : Dest} {part : Option Acct} {im : Bool} {encs : List (Option Acct × Ct)} {pl : Option Payload}
    (hst : Stanza.msg id peer part im encs pl ∈ V.outb z) :
    ∀ e ∈ encs, e.2.ctr ∉ (V.cl z).seen.map Prod.snd ∧ e.2.ctr ∉ (V.cl z).seenSK.map Prod.snd := by
  intro e he
  have h1 := nOf_pos_of_mem (st := .msg id peer part im encs pl) he
  have h2 := sumMap_le_of_mem (f := nOf e.2.ctr) hst
  exact (hT.unop z hz e.2.ctr).2 (by unfold wayV; omega)

theorem DownShape.nonempty {id : Nat} {peer : Dest} {part : Option Acct} {im : Bool} {encs : List (Option Acct × Ct)}
    {pl : Option Payload} (h : DownShape (.msg id peer part im encs pl)) : encs.isEmpty = false := by
  rcases h with ⟨ct, rfl, _⟩ | ⟨_, l, k, rfl, _⟩
  · rfl
  · cases l <;> rfl

theorem finish_recip {L : List (Acct × Node)} {s s0 s' : Sys} {a : Acct} {cons rest : List Stanza} {c' : Client}
    {out : List Stanza} (hn : accts.Nodup) (hT : TV ex accts groups L (view s))
    (hrs : RecipStep accts groups L (view s) a cons rest c' out (view s).nextCtr)
    (hv0 : view s0 = (view s).popOut a rest) (hv : RStep s0 s' a c' out) : TV ex accts groups L (view s') := by
  have := TV.client_step hn hT (hrs.toCStepOK hT)
  unfold RStep at hv
  rw [hv, hv0]
  exact this

/-- a message stanza is delivered, possibly as a copy `encs'` with the same nonces (damaged in transit); parking needs the
    stanza as it was queued -/
theorem deliver_msg_TV' (hw : WFConfig accts groups) {s : Sys} {a : Acct} {rest : List Stanza} {id : Nat} {peer : Dest}
    {part : Option Acct} {im : Bool} {encs encs' : List (Option Acct × Ct)} {pl : Option Payload}
    (hA : AInv accts groups (abs s)) (hT : TV ex accts groups s.submitted (view s))
    (hq : queueOf s.outbound a = .msg id peer part im encs pl :: rest)
    (hshape' : DownShape (.msg id peer part im encs' pl))
    (hctr : encs'.map (fun e => e.2.ctr) = encs.map (fun e => e.2.ctr))
    (hns : encs' ≠ encs → ∀ ct, heFirst encs' = some ct → (decrypt (getClient s a) (whoOf peer part) ct).2 ≠ .noSession) :
    TV ex accts groups s.submitted
      (view (clientReceive { s with outbound := insert s.outbound a rest } a (.msg id peer part im encs' pl))) := by
  have hmem : Stanza.msg id peer part im encs pl ∈ (view s).outb a := by
    show _ ∈ queueOf s.outbound a; rw [hq]; simp
  obtain ⟨ha, _, _⟩ := hA.head_out hq
  have hdg := hT.downs a _ hmem
  have hacc : a ∈ (view { s with outbound := insert s.outbound a rest }).accounts := by
    show a ∈ (view s).accounts; rw [hT.acc]; exact ha
  simp only [clientReceive, hshape'.nonempty, Bool.false_eq_true, if_false]
  have hstep := rstep_handleEnc hacc id peer part im encs' pl
  have hv0 : view { s with outbound := insert s.outbound a rest } = (view s).popOut a rest := view_setOutbound s a rest
  -- the copy carries the nonces of the queued stanza
  have hsame : ∀ e ∈ encs', ∃ e0 ∈ encs, e0.2.ctr = e.2.ctr := by
    intro e he
    have : e.2.ctr ∈ encs.map (fun e => e.2.ctr) := hctr ▸ List.mem_map.mpr ⟨e, he, rfl⟩
    exact List.mem_map.mp this
  by_cases hpark : ∃ ct, heFirst encs' = some ct ∧ (decrypt (getClient s a) (whoOf peer part) ct).2 = .noSession
  · obtain ⟨ct, hf, hd⟩ := hpark
    by_cases hee : encs' = encs
    · subst hee
      have hp := Prepared.park (hT.clients a) (hT.ans a).2 (fun e he => (hA.client a).iq_lt e.1 e.2 he) rfl hdg.cts hdg.shape
        (heC_parked (getClient s a) id peer part im encs' pl hf hd)
      have hrs := RecipStep.ofHandled (V := view s) (x := a) (cons := [.msg id peer part im encs' pl]) (rest := rest) hT ha hq hp
        (Handled.nil _) (fun st hst id' r => by rw [List.mem_singleton] at hst; subst hst; exact ⟨rfl, rfl⟩) (fun _ hst => by cases hst)
      rw [List.append_nil] at hrs
      exact finish_recip hw.1 hT hrs hv0 hstep
    · exact absurd hd (hns hee ct hf)
  · obtain ⟨hh, _⟩ := heC_handled (getClient s a) id peer part im encs' pl hshape' (by
      intro e he
      obtain ⟨e0, he0, h0⟩ := hsame e he
      exact h0 ▸ not_or.mpr (ctrs_unopened hT ha hmem e0 he0)) (fun ct hf hd => hpark ⟨ct, hf, hd⟩)
    have hp : Prepared (view s).nextCtr (getClient s a) [.msg id peer part im encs pl] (getClient s a) [] [.msg id peer part im encs' pl] := {
      sentQ := rfl, receipts := rfl, ownSK := rfl, shown := rfl, seen := rfl, seenSK := rfl
      iq_from := fun e he => Or.inl ⟨he, fun st hst => by rw [List.mem_singleton] at hst; subst hst; simp [stanzaIq]⟩
      first_keep := fun e he _ _ => he
      iqKeys := (hT.clients a).iqKeys
      contS_eq := fun _ _ => rfl
      slot_eq := fun _ => rfl
      parked := (hT.clients a).parked
      pendKeys := (hT.clients a).pendKeys
      ans_pend := (hT.ans a).2
      tokens := fun _ => rfl
      nonces := fun x => by simp only [sumMap_cons, sumMap_nil']; unfold nOf ctrsOf ctsOf; rw [hctr]
      pre := fun _ h => by cases h }
    have hrs := RecipStep.ofHandled (V := view s) (x := a) (cons := [.msg id peer part im encs pl]) (rest := rest) hT ha hq hp hh
      (fun st hst id' r => by rw [List.mem_singleton] at hst; subst hst; exact ⟨rfl, rfl⟩)
      (fun st hst e he => by
        rw [List.mem_singleton] at hst; subst hst
        obtain ⟨e0, he0, h0⟩ := hsame e he
        exact h0 ▸ (hdg.cts e0 he0).2)
    exact finish_recip hw.1 hT hrs hv0 hstep

end

theorem Handled.setPend {c c' : Client} {ms out : List Stanza} (h : Handled c ms c' out) (p : List ((Dest × Option Acct) × List Stanza)) :
    Handled { c with pendingIn := p } ms { c' with pendingIn := p } out where
  same := ⟨h.same.sentQ, h.same.receipts, h.same.ownSK, h.same.iqReg, rfl, h.same.nextIq⟩
  bal := h.bal
  rc := h.rc
  outGood := h.outGood
  outPlain := h.outPlain
  seen := h.seen

theorem foldl_handleEnc_spec (a : Acct) (peer : Dest) (part : Option Acct) (ms : List Stanza) : ∀ (s : Sys),
    a ∈ (view s).accounts →
    (∀ st ∈ ms, (∃ id im encs pl, st = .msg id peer part im encs pl) ∧ DownShape st) →
    (lookup (getClient s a).sessions (whoOf peer part)).isSome = true →
    (∀ n, sumMap (nOf n) ms ≤ 1) →
    (∀ n, 1 ≤ sumMap (nOf n) ms → ¬ (n ∈ (getClient s a).seen.map Prod.snd ∨ n ∈ (getClient s a).seenSK.map Prod.snd)) →
    ∃ c' out, RStep s (ms.foldl (fun acc st => handleEnc acc a st) s) a c' out ∧ Handled (getClient s a) ms c' out := by
  induction ms with
  | nil =>
    intro s _ _ _ _ _
    exact ⟨getClient s a, [], RStep.refl' s a, Handled.nil _⟩
  | cons st ms ih =>
    intro s hacc hsh hsess hle hns
    obtain ⟨⟨id, im, encs, pl, rfl⟩, hds⟩ := hsh st (by simp)
    have hstep := rstep_handleEnc hacc id peer part im encs pl
    obtain ⟨hh1, hmono⟩ := heC_handled (getClient s a) id peer part im encs pl hds (by
        intro e he
        have h1 : 1 ≤ nOf e.2.ctr (.msg id peer part im encs pl) := nOf_pos_of_mem (st := .msg id peer part im encs pl) he
        apply hns
        rw [sumMap_cons]; omega) (by
      intro ct _ hd
      rw [(decrypt_noSession hd).2] at hsess
      cases hsess)
    have hcl1 := hstep.cl
    obtain ⟨c2, o2, hstep2, hh2⟩ := ih (handleEnc s a (.msg id peer part im encs pl)) (by rw [hstep.acc]; exact hacc)
      (fun st' hst' => hsh st' (List.mem_cons_of_mem _ hst'))
      (by rw [hcl1]; exact hmono _ hsess)
      (by intro n; have := hle n; rw [sumMap_cons] at this; omega)
      (by
        -- a nonce of the remaining stanzas does not occur in the first one, so handling that one did not open it
        intro n hn hm
        rw [hcl1] at hm
        have hle' := hle n
        rw [sumMap_cons] at hle'
        rcases hh1.seen n hm with h | h
        · exact hns n (by rw [sumMap_cons]; omega) h
        · simp only [sumMap_cons, sumMap_nil'] at h; omega)
    rw [hcl1] at hh2
    exact ⟨c2, _, hstep.trans hstep2, hh1.trans hh2⟩

/-- `processPendingIncomingMessages`: the stanzas `ms` parked under the key are handled, then the key is dropped -/
theorem rstep_processPending (a : Acct) (peer : Dest) (part : Option Acct) (s : Sys) (hacc : a ∈ (view s).accounts)
    {ms : List Stanza} (hms : (lookup (getClient s a).pendingIn (peer, part)).getD [] = ms)
    (hsh : ∀ st ∈ ms, (∃ id im encs pl, st = .msg id peer part im encs pl) ∧ DownShape st)
    (hsess : (lookup (getClient s a).sessions (whoOf peer part)).isSome = true)
    (hle : ∀ n, sumMap (nOf n) ms ≤ 1)
    (hns : ∀ n, 1 ≤ sumMap (nOf n) ms → ¬ (n ∈ (getClient s a).seen.map Prod.snd ∨ n ∈ (getClient s a).seenSK.map Prod.snd)) :
    ∃ (c' : Client) (out : List Stanza),
      RStep s (processPending s a peer part) a { c' with pendingIn := erase (getClient s a).pendingIn (peer, part) } out ∧
      Handled { getClient s a with pendingIn := erase (getClient s a).pendingIn (peer, part) } ms
        { c' with pendingIn := erase (getClient s a).pendingIn (peer, part) } out := by
  subst hms
  obtain ⟨c2, out, h3, hh⟩ := foldl_handleEnc_spec a peer part _ s hacc hsh hsess hle hns
  refine ⟨c2, out, ?_, hh.setPend _⟩
  unfold processPending
  dsimp only
  rw [h3.cl, hh.same.pend]
  have := h3.trans (rstep_setClient { c2 with pendingIn := erase (getClient s a).pendingIn (peer, part) } (h3.mem hacc))
  rwa [List.append_nil] at this

section
variable {ex : Bool} {accts : List Acct} {groups : List (Nat × List Acct)}

theorem onIqResult_pending (hw : WFConfig accts groups) {s : Sys} {a : Acct} {hd : Stanza} {rest : List Stanza} {iq : Nat}
    {got ms : List Acct} {peer : Dest} {part : Option Acct}
    (hT : TV ex accts groups s.submitted (view s)) (ha : a ∈ accts)
    (hq : queueOf s.outbound a = hd :: rest) (hiq : stanzaIq hd = some iq)
    (hplain : ∀ id r, downTok id hd = 0 ∧ nOf id hd = 0 ∧ rcptOut id r hd = 0 ∧ retryDownTok id r hd = 0)
    (hk0 : lookup (getClient s a).iqReg iq = some (.keysForPending peer part))
    (hgot : ∀ j, j ∈ asked (.keysForPending peer part) → j ∈ got) :
    TV ex accts groups s.submitted (view (onIqResult { s with outbound := insert s.outbound a rest } a iq got ms)) := by
  have hacc : a ∈ (view { s with outbound := insert s.outbound a rest }).accounts := by
    show a ∈ (view s).accounts; rw [hT.acc]; exact ha
  have hcg : ClientGood (view s).nextCtr (getClient s a) := hT.clients a
  have hv0 : view { s with outbound := insert s.outbound a rest } = (view s).popOut a rest := view_setOutbound s a rest
  have hgc : getClient { s with outbound := insert s.outbound a rest } a = getClient s a := rfl
  unfold onIqResult
  simp only [hgc, hk0]
  -- erase the continuation
  have h1 := rstep_setClient (s := { s with outbound := insert s.outbound a rest })
    { getClient s a with iqReg := erase (getClient s a).iqReg iq } hacc
  generalize hs0 : setClient { s with outbound := insert s.outbound a rest } a
      { getClient s a with iqReg := erase (getClient s a).iqReg iq } = s0 at h1
  have hacc0 : a ∈ (view s0).accounts := by rw [h1.acc]; exact hacc
  -- create the session
  obtain ⟨cK, hvK, hsameK, hregK, hsessK, _, hokK⟩ := processKeys_spec a got [whoOf peer part] s0 hacc0 (by
    intro j hj; apply hgot; simpa [asked] using hj)
  rw [h1.cl] at hsameK hregK
  show TV ex accts groups s.submitted (view (if (processKeys s0 a [whoOf peer part] got).2.isEmpty = true
        then (processKeys s0 a [whoOf peer part] got).1
        else processPending (processKeys s0 a [whoOf peer part] got).1 a peer part))
  generalize hpk : processKeys s0 a [whoOf peer part] got = pk at hvK hokK
  obtain ⟨s1, ok⟩ := pk
  simp only at hvK hokK ⊢
  subst hokK
  simp only [List.isEmpty_cons, Bool.false_eq_true, if_false]
  have h2 : RStep s0 s1 a cK [] := hvK
  have hacc1 : a ∈ (view s1).accounts := by rw [h2.acc]; exact hacc0
  have hcl1 : getClient s1 a = cK := h2.cl
  -- handle what was parked
  have hpendK : cK.pendingIn = (getClient s a).pendingIn := hsameK.pend
  have hparked : ∀ st ∈ (lookup (getClient s a).pendingIn (peer, part)).getD [], ParkGood (view s).nextCtr (peer, part) st := by
    intro st hst
    obtain ⟨v, hv, hxv⟩ := lookup_getD_mem hst
    exact hcg.parked _ hv st hxv
  have hway : ∀ n, sumMap (nOf n) ((lookup (getClient s a).pendingIn (peer, part)).getD []) ≤ wayV accts (view s) a n := by
    intro n
    have := sumMap_erase_getD hcg.pendKeys (fun l => sumMap (nOf n) l) rfl (peer, part)
    unfold wayV pendN
    show _ ≤ _ + sumMap (fun e => sumMap (nOf n) e.2) (getClient s a).pendingIn + _
    omega
  obtain ⟨c2, out, h3, hh'⟩ := rstep_processPending a peer part s1 hacc1 (by rw [hcl1, hpendK])
    (fun st hst => ⟨(hparked st hst).1, (hparked st hst).2.2⟩)
    (by rw [hcl1]; exact hsessK _ (by simp))
    (fun n => Nat.le_trans (hway n) (hT.unop a ha n).1)
    (by
      rw [hcl1, hsameK.seen, hsameK.seenSK]
      exact fun n hn => not_or.mpr ((hT.unop a ha n).2 (Nat.le_trans hn (hway n))))
  rw [hcl1, hpendK] at h3 hh'
  have hfull := (h1.trans h2).trans h3
  simp only [List.nil_append] at hfull
  have hp := Prepared.answered (peer := peer) (part := part) hcg (hT.ans a).2 hk0 hiq (fun n => ⟨(hplain n 0).1, (hplain n 0).2.1⟩)
    hsameK hregK
  have hrs := RecipStep.ofHandled (V := view s) (x := a) (cons := [hd]) (rest := rest) hT ha hq hp hh'
    (by
      intro st hst id r
      rw [List.mem_singleton] at hst; subst hst
      exact ⟨(hplain id r).2.2.2, (hplain id r).2.2.1⟩)
    (fun st hst e he => ((hparked st hst).2.1 e he).2)
  exact finish_recip hw.1 hT hrs hv0 hfull

theorem onIqResult_TV' (hw : WFConfig accts groups) {s : Sys} {a : Acct} {hd : Stanza} {rest : List Stanza} {iq : Nat}
    {got ms : List Acct}
    (hA : AInv accts groups (abs s)) (hT : TV ex accts groups s.submitted (view s)) (ha : a ∈ accts)
    (hq : queueOf s.outbound a = hd :: rest) (hiq : stanzaIq hd = some iq)
    (hplain : ∀ id r, downTok id hd = 0 ∧ nOf id hd = 0 ∧ rcptOut id r hd = 0 ∧ retryDownTok id r hd = 0)
    (hgot : ∀ k0, lookup (getClient s a).iqReg iq = some k0 → ∀ j, j ∈ asked k0 → j ∈ got) :
    TV ex accts groups s.submitted (view (onIqResult { s with outbound := insert s.outbound a rest } a iq got ms)) := by
  cases hk0 : lookup (getClient s a).iqReg iq with
  | none =>
    have : onIqResult { s with outbound := insert s.outbound a rest } a iq got ms = { s with outbound := insert s.outbound a rest } := by
      unfold onIqResult
      have hgc : getClient { s with outbound := insert s.outbound a rest } a = getClient s a := rfl
      simp only [hgc, hk0]
    rw [this, view_setOutbound]
    refine pop_only hw.1 hT ha hq (fun id r => ⟨(hplain id r).1, (hplain id r).2.2.2, (hplain id r).2.2.1, (hplain id r).2.1⟩) ?_
    intro e he
    rw [hiq]
    intro e'
    exact lookup_eq_none_iff.mp hk0 e he (Option.some.inj e').symm
  | some k0 =>
    cases hcn : contNode k0 with
    | some nw =>
      obtain ⟨n, who⟩ := nw
      exact onIqResult_sender' hw hA hT ha hq hiq hplain hk0 hcn (hgot k0 hk0)
    | none =>
      cases k0 with
      | keysForPending peer part => exact onIqResult_pending hw hT ha hq hiq hplain hk0 (hgot _ hk0)
      | _ => cases hcn

theorem onIqResult_TV (hw : WFConfig accts groups) {s : Sys} {a : Acct} {hd : Stanza} {rest : List Stanza} {iq : Nat}
    {got ms : List Acct}
    (hA : AInv accts groups (abs s)) (hT : TV ex accts groups s.submitted (view s)) (ha : a ∈ accts)
    (_hlen : s.submitted.length ≤ 100)
    (hq : queueOf s.outbound a = hd :: rest) (hiq : stanzaIq hd = some iq)
    (hplain : ∀ id r, downTok id hd = 0 ∧ nOf id hd = 0 ∧ rcptOut id r hd = 0 ∧ retryDownTok id r hd = 0)
    (hgot : ∀ k0, lookup (getClient s a).iqReg iq = some k0 → ∀ j, j ∈ asked k0 → j ∈ got) :
    TV ex accts groups s.submitted (view (onIqResult { s with outbound := insert s.outbound a rest } a iq got ms)) :=
  onIqResult_TV' hw hA hT ha hq hiq hplain hgot

/-- a delivery; the bound on the number of submissions is needed only when a retry request is delivered -/
theorem deliver_TInv' (hw : WFConfig accts groups) {s : Sys} {a : Acct}
    (h : TInv ex accts groups s) (hall : Allowed s (.deliver a .none) = true)
    (hlen : s.submitted.length ≤ 100 ∨
      ∀ st ∈ queueOf s.outbound a, ∀ id peer part cnt, st ≠ .receipt id peer part (.retry cnt)) :
    TInv ex accts groups (step s (.deliver a .none)) := by
  obtain ⟨hA, hT⟩ := h
  refine ⟨step_inv hA hall, ?_⟩
  cases hq : queueOf s.outbound a with
  | nil =>
    have : step s (.deliver a .none) = s := by simp only [step, hq]
    rw [this]; exact hT
  | cons st rest =>
    have hstep : step s (.deliver a .none) = clientReceive { s with outbound := insert s.outbound a rest } a st := by
      simp only [step, hq]
    obtain ⟨ha, hd, hl⟩ := hA.head_out hq
    have hsub : (clientReceive { s with outbound := insert s.outbound a rest } a st).submitted = s.submitted :=
      (clientReceive_good (hA.popOut hq) ha hd hl).2
    rw [hstep, hsub]
    have hdg := hT.downs a st (by show st ∈ queueOf s.outbound a; rw [hq]; exact List.mem_cons_self)
    cases st with
    | msg id peer part im encs pl => exact deliver_msg_TV' hw hA hT hq hdg.shape rfl (fun h => absurd rfl h)
    | receipt id peer part t =>
      cases t with
      | delivery => exact onReceipt_delivery_TV hw hA hT hq
      | retry cnt =>
        rcases hlen with hlen | hnr
        · exact onReceipt_retry_TV hw hA hT hlen hq
        · exact absurd rfl (hnr _ (by rw [hq]; simp) id peer part cnt)
    | ack id cls =>
      show TV ex accts groups s.submitted (view { s with outbound := insert s.outbound a rest })
      rw [view_setOutbound]
      exact pop_only hw.1 hT ha hq (fun _ _ => ⟨rfl, rfl, rfl, rfl⟩) (fun e _ => by simp [stanzaIq])
    | getKeys iq jids => exact absurd hdg.dir (by simp [downDir])
    | getGroup iq g => exact absurd hdg.dir (by simp [downDir])
    | keys iq got =>
      exact onIqResult_TV' (iq := iq) (got := got) (ms := []) hw hA hT ha hq rfl (fun _ _ => ⟨rfl, rfl, rfl, rfl⟩)
        (hl iq rfl).2
    | groupInfo iq g ms =>
      exact onIqResult_TV' (iq := iq) (got := []) (ms := ms) hw hA hT ha hq rfl (fun _ _ => ⟨rfl, rfl, rfl, rfl⟩)
        (hl iq rfl).2

theorem deliver_TInv (hw : WFConfig accts groups) {s : Sys} {a : Acct}
    (h : TInv ex accts groups s) (hall : Allowed s (.deliver a .none) = true) (hlen : s.submitted.length ≤ 100) :
    TInv ex accts groups (step s (.deliver a .none)) := deliver_TInv' hw h hall (Or.inl hlen)

end

end Yow.E2E
