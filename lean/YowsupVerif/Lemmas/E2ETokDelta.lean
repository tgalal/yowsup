/-
  How the counted quantities of the token invariant (E2ETokInv) change under the view updates of E2ETokBase.  Each
  quantity is a sum of terms that read one field of the view at one account, and each update changes one field at the
  account `x` (`upd_sum`, `sumMap_upd_append`, `sumMap_upd_rest`); the rest is adding up.
-/
import YowsupVerif.Lemmas.E2ETokInv
namespace Yow.E2E

section
variable (V : View) (x : Acct)

theorem inTransitV_cstep (c' : Client) (out : List Stanza) (k : Nat) (a : Acct) (id : Nat) (r : Acct) :
    inTransitV (V.cstep x c' out k) a id r
      + (if r = x then pendS id (V.cl x).pendingIn else 0)
    = inTransitV V a id r
      + (if a = x then sumMap (upTok id r) out else 0)
      + (if r = x then pendS id c'.pendingIn + sumMap (retryUpTok id) out else 0) := by
  have := upd_sum (fun c => pendS id c.pendingIn) V.cl x c' r
  simp only [inTransitV, View.cstep, sumMap_upd_append, ite_add_zero]
  omega

theorem inTransitV_popOuts {cons rest : List Stanza} (hq : V.outb x = cons ++ rest) (a : Acct) (id : Nat) (r : Acct) :
    inTransitV (V.popOut x rest) a id r + (if r = x then sumMap (downTok id) cons else 0)
      + (if a = x then sumMap (retryDownTok id r) cons else 0) = inTransitV V a id r := by
  have h1 := sumMap_upd_rest hq (downTok id) r
  have h2 := sumMap_upd_rest hq (retryDownTok id r) a
  simp only [inTransitV, View.popOut]
  omega

theorem inTransitV_popOut {h : Stanza} {rest : List Stanza} (hq : V.outb x = h :: rest) (a : Acct) (id : Nat) (r : Acct) :
    inTransitV (V.popOut x rest) a id r + (if r = x then downTok id h else 0) + (if a = x then retryDownTok id r h else 0)
    = inTransitV V a id r :=
  inTransitV_popOuts V x (cons := [h]) hq a id r

theorem inTransitV_server {cons rest : List Stanza} (hq : V.inb x = cons ++ rest) (add : Acct → List Stanza) (a : Acct) (id : Nat)
    (r : Acct) :
    inTransitV ((V.popIn x rest).pushes add) a id r + (if a = x then sumMap (upTok id r) cons else 0)
      + (if r = x then sumMap (retryUpTok id) cons else 0)
    = inTransitV V a id r + sumMap (downTok id) (add r) + sumMap (retryDownTok id r) (add a) := by
  have h1 := sumMap_upd_rest hq (upTok id r) a
  have h2 := sumMap_upd_rest hq (retryUpTok id) r
  simp only [inTransitV, View.popIn, View.pushes, sumMap_append]
  omega

/-- the tokens of a message: the continuation at its sender, what is in transit, what the recipient has shown -/
theorem tokensV_eq (a : Acct) (id : Nat) (r : Acct) :
    tokensV V a id r = contS id r (V.cl a).iqReg + inTransitV V a id r + shownC (V.cl r) id := by
  unfold tokensV inTransitV
  omega

theorem tokensV_cstep (c' : Client) (out : List Stanza) (k : Nat) (a : Acct) (id : Nat) (r : Acct) :
    tokensV (V.cstep x c' out k) a id r
      + (if a = x then contS id r (V.cl x).iqReg else 0)
      + (if r = x then pendS id (V.cl x).pendingIn + shownC (V.cl x) id else 0)
    = tokensV V a id r
      + (if a = x then contS id r c'.iqReg + sumMap (upTok id r) out else 0)
      + (if r = x then pendS id c'.pendingIn + sumMap (retryUpTok id) out + shownC c' id else 0) := by
  have h1 := upd_sum (fun c => contS id r c.iqReg) V.cl x c' a
  have h2 := upd_sum (fun c => shownC c id) V.cl x c' r
  have h3 := inTransitV_cstep V x c' out k a id r
  simp only [tokensV_eq, View.cstep, ite_add_zero] at h3 ⊢
  omega

theorem tokensV_popOut {h : Stanza} {rest : List Stanza} (hq : V.outb x = h :: rest) (a : Acct) (id : Nat) (r : Acct) :
    tokensV (V.popOut x rest) a id r + (if r = x then downTok id h else 0) + (if a = x then retryDownTok id r h else 0)
    = tokensV V a id r := by
  have := inTransitV_popOut V x hq a id r
  simp only [tokensV_eq, View.popOut] at this ⊢
  omega

theorem tokensV_addSub (p : Acct × Node) (a : Acct) (id : Nat) (r : Acct) : tokensV (V.addSub p) a id r = tokensV V a id r := rfl

theorem receiptTokensV_cstep (c' : Client) (out : List Stanza) (k : Nat) (a : Acct) (id : Nat) (r : Acct) :
    receiptTokensV (V.cstep x c' out k) a id r + (if a = x then rcptGot (V.cl x) id r else 0)
    = receiptTokensV V a id r + (if r = x then sumMap (rcptIn id) out else 0) + (if a = x then rcptGot c' id r else 0) := by
  have := upd_sum (fun c => rcptGot c id r) V.cl x c' a
  simp only [receiptTokensV, View.cstep, sumMap_upd_append]
  omega

theorem receiptTokensV_popOuts {cons rest : List Stanza} (hq : V.outb x = cons ++ rest) (a : Acct) (id : Nat) (r : Acct) :
    receiptTokensV (V.popOut x rest) a id r + (if a = x then sumMap (rcptOut id r) cons else 0) = receiptTokensV V a id r := by
  have := sumMap_upd_rest hq (rcptOut id r) a
  simp only [receiptTokensV, View.popOut]
  omega

theorem receiptTokensV_popOut {h : Stanza} {rest : List Stanza} (hq : V.outb x = h :: rest) (a : Acct) (id : Nat) (r : Acct) :
    receiptTokensV (V.popOut x rest) a id r + (if a = x then rcptOut id r h else 0) = receiptTokensV V a id r :=
  receiptTokensV_popOuts V x (cons := [h]) hq a id r

theorem receiptTokensV_server {cons rest : List Stanza} (hq : V.inb x = cons ++ rest) (add : Acct → List Stanza) (a : Acct)
    (id : Nat) (r : Acct) :
    receiptTokensV ((V.popIn x rest).pushes add) a id r + (if r = x then sumMap (rcptIn id) cons else 0)
    = receiptTokensV V a id r + sumMap (rcptOut id r) (add a) := by
  have := sumMap_upd_rest hq (rcptIn id) r
  simp only [receiptTokensV, View.popIn, View.pushes, sumMap_append]
  omega

theorem wayV_cstep {accts : List Acct} (hn : accts.Nodup) (c' : Client) (out : List Stanza) (k : Nat) (r : Acct) (n : Nat) :
    wayV accts (V.cstep x c' out k) r n + (if r = x then pendN n (V.cl x).pendingIn else 0)
    = wayV accts V r n + (if r = x then pendN n c'.pendingIn else 0)
      + (if x ∈ accts ∧ x ≠ r then sumMap (upN V.groups r n) out else 0) := by
  have h1 := sumMap_others_upd hn (upN V.groups r n) V.inb x r (V.inb x ++ out)
  have h2 := upd_sum (fun c => pendN n c.pendingIn) V.cl x c' r
  simp only [sumMap_append, ite_add_zero] at h1
  simp only [wayV, View.cstep]
  omega

theorem wayV_popOuts {accts : List Acct} {cons rest : List Stanza} (hq : V.outb x = cons ++ rest) (r : Acct) (n : Nat) :
    wayV accts (V.popOut x rest) r n + (if r = x then sumMap (nOf n) cons else 0) = wayV accts V r n := by
  have := sumMap_upd_rest hq (nOf n) r
  simp only [wayV, View.popOut]
  omega

theorem wayV_popOut {accts : List Acct} {h : Stanza} {rest : List Stanza} (hq : V.outb x = h :: rest) (r : Acct) (n : Nat) :
    wayV accts (V.popOut x rest) r n + (if r = x then nOf n h else 0) = wayV accts V r n :=
  wayV_popOuts V x (cons := [h]) hq r n

theorem wayV_server {accts : List Acct} (hn : accts.Nodup) {cons rest : List Stanza} (hq : V.inb x = cons ++ rest)
    (add : Acct → List Stanza) (r : Acct) (n : Nat) :
    wayV accts ((V.popIn x rest).pushes add) r n + (if x ∈ accts ∧ x ≠ r then sumMap (upN V.groups r n) cons else 0)
    = wayV accts V r n + sumMap (nOf n) (add r) := by
  have := sumMap_others_upd hn (upN V.groups r n) V.inb x r rest
  simp only [hq, sumMap_append, ite_add_zero] at this
  simp only [wayV, View.popIn, View.pushes, sumMap_append]
  omega

end

section Zero
variable (id : Nat) (r : Acct) (groups : List (Nat × List Acct))
@[simp] theorem upTok_ack (i c : Nat) : upTok id r (.ack i c) = 0 := rfl
@[simp] theorem downTok_ack (i c : Nat) : downTok id (.ack i c) = 0 := rfl
@[simp] theorem retryUpTok_ack (i c : Nat) : retryUpTok id (.ack i c) = 0 := rfl
@[simp] theorem retryDownTok_ack (i c : Nat) : retryDownTok id r (.ack i c) = 0 := rfl
@[simp] theorem rcptIn_ack (i c : Nat) : rcptIn id (.ack i c) = 0 := rfl
@[simp] theorem rcptOut_ack (i c : Nat) : rcptOut id r (.ack i c) = 0 := rfl
@[simp] theorem nOf_ack (i c : Nat) : nOf id (.ack i c) = 0 := rfl
@[simp] theorem upN_ack (i c : Nat) : upN groups r id (.ack i c) = 0 := rfl
@[simp] theorem upTok_getKeys (i : Nat) (j : List Acct) : upTok id r (.getKeys i j) = 0 := rfl
@[simp] theorem downTok_getKeys (i : Nat) (j : List Acct) : downTok id (.getKeys i j) = 0 := rfl
@[simp] theorem retryUpTok_getKeys (i : Nat) (j : List Acct) : retryUpTok id (.getKeys i j) = 0 := rfl
@[simp] theorem retryDownTok_getKeys (i : Nat) (j : List Acct) : retryDownTok id r (.getKeys i j) = 0 := rfl
@[simp] theorem rcptIn_getKeys (i : Nat) (j : List Acct) : rcptIn id (.getKeys i j) = 0 := rfl
@[simp] theorem rcptOut_getKeys (i : Nat) (j : List Acct) : rcptOut id r (.getKeys i j) = 0 := rfl
@[simp] theorem nOf_getKeys (i : Nat) (j : List Acct) : nOf id (.getKeys i j) = 0 := rfl
@[simp] theorem upN_getKeys (i : Nat) (j : List Acct) : upN groups r id (.getKeys i j) = 0 := rfl
@[simp] theorem upTok_keys (i : Nat) (j : List Acct) : upTok id r (.keys i j) = 0 := rfl
@[simp] theorem downTok_keys (i : Nat) (j : List Acct) : downTok id (.keys i j) = 0 := rfl
@[simp] theorem retryUpTok_keys (i : Nat) (j : List Acct) : retryUpTok id (.keys i j) = 0 := rfl
@[simp] theorem retryDownTok_keys (i : Nat) (j : List Acct) : retryDownTok id r (.keys i j) = 0 := rfl
@[simp] theorem rcptIn_keys (i : Nat) (j : List Acct) : rcptIn id (.keys i j) = 0 := rfl
@[simp] theorem rcptOut_keys (i : Nat) (j : List Acct) : rcptOut id r (.keys i j) = 0 := rfl
@[simp] theorem nOf_keys (i : Nat) (j : List Acct) : nOf id (.keys i j) = 0 := rfl
@[simp] theorem upN_keys (i : Nat) (j : List Acct) : upN groups r id (.keys i j) = 0 := rfl
@[simp] theorem upTok_getGroup (i g : Nat) : upTok id r (.getGroup i g) = 0 := rfl
@[simp] theorem downTok_getGroup (i g : Nat) : downTok id (.getGroup i g) = 0 := rfl
@[simp] theorem retryUpTok_getGroup (i g : Nat) : retryUpTok id (.getGroup i g) = 0 := rfl
@[simp] theorem retryDownTok_getGroup (i g : Nat) : retryDownTok id r (.getGroup i g) = 0 := rfl
@[simp] theorem rcptIn_getGroup (i g : Nat) : rcptIn id (.getGroup i g) = 0 := rfl
@[simp] theorem rcptOut_getGroup (i g : Nat) : rcptOut id r (.getGroup i g) = 0 := rfl
@[simp] theorem nOf_getGroup (i g : Nat) : nOf id (.getGroup i g) = 0 := rfl
@[simp] theorem upN_getGroup (i g : Nat) : upN groups r id (.getGroup i g) = 0 := rfl
@[simp] theorem upTok_groupInfo (i g : Nat) (ms : List Acct) : upTok id r (.groupInfo i g ms) = 0 := rfl
@[simp] theorem downTok_groupInfo (i g : Nat) (ms : List Acct) : downTok id (.groupInfo i g ms) = 0 := rfl
@[simp] theorem retryUpTok_groupInfo (i g : Nat) (ms : List Acct) : retryUpTok id (.groupInfo i g ms) = 0 := rfl
@[simp] theorem retryDownTok_groupInfo (i g : Nat) (ms : List Acct) : retryDownTok id r (.groupInfo i g ms) = 0 := rfl
@[simp] theorem rcptIn_groupInfo (i g : Nat) (ms : List Acct) : rcptIn id (.groupInfo i g ms) = 0 := rfl
@[simp] theorem rcptOut_groupInfo (i g : Nat) (ms : List Acct) : rcptOut id r (.groupInfo i g ms) = 0 := rfl
@[simp] theorem nOf_groupInfo (i g : Nat) (ms : List Acct) : nOf id (.groupInfo i g ms) = 0 := rfl
@[simp] theorem upN_groupInfo (i g : Nat) (ms : List Acct) : upN groups r id (.groupInfo i g ms) = 0 := rfl
@[simp] theorem upTok_receipt (i : Nat) (p : Dest) (q : Option Acct) (t : RType) : upTok id r (.receipt i p q t) = 0 := rfl
@[simp] theorem downTok_receipt (i : Nat) (p : Dest) (q : Option Acct) (t : RType) : downTok id (.receipt i p q t) = 0 := rfl
@[simp] theorem nOf_receipt (i : Nat) (p : Dest) (q : Option Acct) (t : RType) : nOf id (.receipt i p q t) = 0 := rfl
@[simp] theorem upN_receipt (i : Nat) (p : Dest) (q : Option Acct) (t : RType) : upN groups r id (.receipt i p q t) = 0 := rfl
@[simp] theorem retryUpTok_msg (i : Nat) (p : Dest) (q : Option Acct) (im : Bool) (e : List (Option Acct × Ct)) (pl : Option Payload) : retryUpTok id (.msg i p q im e pl) = 0 := rfl
@[simp] theorem retryDownTok_msg (i : Nat) (p : Dest) (q : Option Acct) (im : Bool) (e : List (Option Acct × Ct)) (pl : Option Payload) : retryDownTok id r (.msg i p q im e pl) = 0 := rfl
@[simp] theorem rcptIn_msg (i : Nat) (p : Dest) (q : Option Acct) (im : Bool) (e : List (Option Acct × Ct)) (pl : Option Payload) : rcptIn id (.msg i p q im e pl) = 0 := rfl
@[simp] theorem rcptOut_msg (i : Nat) (p : Dest) (q : Option Acct) (im : Bool) (e : List (Option Acct × Ct)) (pl : Option Payload) : rcptOut id r (.msg i p q im e pl) = 0 := rfl
end Zero

end Yow.E2E
