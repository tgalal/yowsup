/-
  The two usual kinds of client step, as instances of the master lemma for a client step (E2ETokStep).  A client acting
  as the sender of messages (nothing parked / shown / opened changes, no receipts go out, no message stanza is consumed)
  and a client acting as a recipient (its continuations keep their tokens, sent queue / receipts / sender keys unchanged,
  no message stanza goes out, no receipt is consumed).
-/
import YowsupVerif.Lemmas.E2ETokStep
namespace Yow.E2E

structure SenderStep (accts : List Acct) (groups : List (Nat × List Acct)) (L : List (Acct × Node)) (V : View) (x : Acct)
    (cons rest : List Stanza) (c' : Client) (out : List Stanza) (k : Nat) : Prop where
  hx : x ∈ accts
  hq : V.outb x = cons ++ rest
  hk : V.nextCtr ≤ k
  pend : c'.pendingIn = (V.cl x).pendingIn
  shown : c'.shown = (V.cl x).shown
  seen : c'.seen = (V.cl x).seen
  seenSK : c'.seenSK = (V.cl x).seenSK
  cons_plain : ∀ st ∈ cons, ∀ id, downTok id st = 0 ∧ nOf id st = 0
  out_plain : ∀ st ∈ out, ∀ id, retryUpTok id st = 0 ∧ rcptIn id st = 0
  conts : ∀ e ∈ c'.iqReg, ContShape e.2
  iqKeys : keysNodup c'.iqReg
  good_out : ∀ st ∈ out, UpGood k c' st
  cons_S : ∀ n, (x, n) ∈ L → ∀ r, r ∈ intendedG groups x n →
    contS n.id r c'.iqReg + sumMap (upTok n.id r) out = contS n.id r (V.cl x).iqReg + sumMap (retryDownTok n.id r) cons
  rcons_S : ∀ n, (x, n) ∈ L → ∀ r, r ∈ intendedG groups x n →
    rcptGot c' n.id r = rcptGot (V.cl x) n.id r + sumMap (rcptOut n.id r) cons
  ans_iq : ∀ e ∈ c'.iqReg, (e ∈ (V.cl x).iqReg ∧ ∀ st ∈ cons, stanzaIq st ≠ some e.1) ∨ ∃ st ∈ out, stanzaIq st = some e.1
  ans_pend : ∀ e ∈ (V.cl x).pendingIn, ∃ k ∈ c'.iqReg, k.2 = Cont.keysForPending e.1.1 e.1.2
  kept_S : ∀ n, (x, n) ∈ L → ∀ r, r ∈ intendedG groups x n →
    inTransitV V x n.id r + sumMap (upTok n.id r) out = sumMap (retryDownTok n.id r) cons ∨ n ∈ c'.sentQueue ∨
      100 < V.submitted.length
  ret3 : ∀ n, (x, n) ∈ L → ∀ g, n.dest = .group g →
    (lookup c'.ownSK g).isSome = true ∨ ∃ e ∈ c'.iqReg, firstGroupCont e.2 n.id
  slots : ∀ i, sendSlots c' i ≤ 1
  rids : ∀ e ∈ c'.receipts, ∃ p ∈ V.submitted, p.2.id = e.1
  retq : ∀ e ∈ c'.iqReg, ∀ n w c, e.2 = Cont.keysForRetry n w c → isGroupDest n.dest = true →
    n ∈ c'.sentQueue ∨ 100 < V.submitted.length
  unop_out : ∀ r, r ≠ x → ∀ n, sumMap (upN groups r n) out ≤ 1 ∧ (1 ≤ sumMap (upN groups r n) out → V.nextCtr ≤ n)

theorem shownC_congr {c c' : Client} (h : c'.shown = c.shown) (id : Nat) : shownC c' id = shownC c id := by
  unfold shownC; rw [h]

theorem SenderStep.toCStepOK {ex : Bool} {accts : List Acct} {groups : List (Nat × List Acct)} {L : List (Acct × Node)} {V : View} {x : Acct}
    {cons rest : List Stanza} {c' : Client} {out : List Stanza} {k : Nat}
    (h : TV ex accts groups L V) (hs : SenderStep accts groups L V x cons rest c' out k) :
    CStepOK accts groups L V x cons rest c' out k := by
  have hcg := (h.clients x).mono hs.hk
  have hz1 : ∀ id, sumMap (downTok id) cons = 0 := fun id => sumMap_eq_zero (fun st hst => (hs.cons_plain st hst id).1)
  have hz2 : ∀ id, sumMap (nOf id) cons = 0 := fun id => sumMap_eq_zero (fun st hst => (hs.cons_plain st hst id).2)
  have hz3 : ∀ id, sumMap (retryUpTok id) out = 0 := fun id => sumMap_eq_zero (fun st hst => (hs.out_plain st hst id).1)
  have hz4 : ∀ id, sumMap (rcptIn id) out = 0 := fun id => sumMap_eq_zero (fun st hst => (hs.out_plain st hst id).2)
  -- the conditions not listed are those of `hs`
  exact { hs with
    shown_mono := fun id => Nat.le_of_eq (shownC_congr hs.shown id).symm
    good_c := {
      seen := by rw [hs.seen]; exact hcg.seen
      seenSK := by rw [hs.seenSK]; exact hcg.seenSK
      conts := hs.conts
      iqKeys := hs.iqKeys
      pendKeys := by rw [hs.pend]; exact hcg.pendKeys
      parked := by rw [hs.pend]; exact hcg.parked }
    cons_R := by
      intro a n _ _
      rw [hs.pend, hz1, hz3, shownC_congr hs.shown]
      omega
    rcons_R := by
      intro a n _ _
      rw [hz4, shownC_congr hs.shown]
      omega
    ans_pend := by rw [hs.pend]; exact hs.ans_pend
    kept_R := by
      intro a n _ _
      rw [hs.pend, hz1, hz3]
      omega
    unop_pend := by intro n; rw [hs.pend]; omega
    unop_seen := by
      intro n hn
      rw [hs.seen, hs.seenSK] at hn
      exact Or.inl hn }

structure RecipStep (accts : List Acct) (groups : List (Nat × List Acct)) (L : List (Acct × Node)) (V : View) (x : Acct)
    (cons rest : List Stanza) (c' : Client) (out : List Stanza) (k : Nat) : Prop where
  hx : x ∈ accts
  hq : V.outb x = cons ++ rest
  hk : V.nextCtr ≤ k
  sentQ : c'.sentQueue = (V.cl x).sentQueue
  receipts : c'.receipts = (V.cl x).receipts
  ownSK : c'.ownSK = (V.cl x).ownSK
  contS_eq : ∀ id r, contS id r c'.iqReg = contS id r (V.cl x).iqReg
  slot_eq : ∀ i, slotS i c'.iqReg = slotS i (V.cl x).iqReg
  first_keep : ∀ e ∈ (V.cl x).iqReg, ∀ i, firstGroupCont e.2 i → e ∈ c'.iqReg
  iq_new : ∀ e ∈ c'.iqReg, e ∈ (V.cl x).iqReg ∨ ∃ p q, e.2 = Cont.keysForPending p q
  cons_plain : ∀ st ∈ cons, ∀ id r, retryDownTok id r st = 0 ∧ rcptOut id r st = 0
  out_plain : ∀ st ∈ out, ∀ id r, upTok id r st = 0 ∧ upN groups r id st = 0
  shown_mono : ∀ id, shownC (V.cl x) id ≤ shownC c' id
  good_c : ClientGood k c'
  good_out : ∀ st ∈ out, UpGood k c' st
  cons_R : ∀ a n, (a, n) ∈ L → x ∈ intendedG groups a n →
    pendS n.id c'.pendingIn + sumMap (retryUpTok n.id) out + shownC c' n.id
      = sumMap (downTok n.id) cons + pendS n.id (V.cl x).pendingIn + shownC (V.cl x) n.id
  rcons_R : ∀ a n, (a, n) ∈ L → x ∈ intendedG groups a n → sumMap (rcptIn n.id) out + shownC (V.cl x) n.id = shownC c' n.id
  ans_iq : ∀ e ∈ c'.iqReg, (e ∈ (V.cl x).iqReg ∧ ∀ st ∈ cons, stanzaIq st ≠ some e.1) ∨ ∃ st ∈ out, stanzaIq st = some e.1
  ans_pend : ∀ e ∈ c'.pendingIn, ∃ k ∈ c'.iqReg, k.2 = Cont.keysForPending e.1.1 e.1.2
  kept_R : ∀ a n, (a, n) ∈ L → x ∈ intendedG groups a n →
    pendS n.id c'.pendingIn + sumMap (retryUpTok n.id) out ≤ sumMap (downTok n.id) cons + pendS n.id (V.cl x).pendingIn
  unop_pend : ∀ n, pendN n c'.pendingIn ≤ sumMap (nOf n) cons + pendN n (V.cl x).pendingIn
  unop_seen : ∀ n, (n ∈ c'.seen.map Prod.snd ∨ n ∈ c'.seenSK.map Prod.snd) →
    (n ∈ (V.cl x).seen.map Prod.snd ∨ n ∈ (V.cl x).seenSK.map Prod.snd) ∨
      pendN n c'.pendingIn + 1 ≤ sumMap (nOf n) cons + pendN n (V.cl x).pendingIn

theorem RecipStep.toCStepOK {ex : Bool} {accts : List Acct} {groups : List (Nat × List Acct)} {L : List (Acct × Node)} {V : View} {x : Acct}
    {cons rest : List Stanza} {c' : Client} {out : List Stanza} {k : Nat}
    (h : TV ex accts groups L V) (hs : RecipStep accts groups L V x cons rest c' out k) :
    CStepOK accts groups L V x cons rest c' out k := by
  have hz1 : ∀ id r, sumMap (retryDownTok id r) cons = 0 := fun id r => sumMap_eq_zero (fun st hst => (hs.cons_plain st hst id r).1)
  have hz2 : ∀ id r, sumMap (rcptOut id r) cons = 0 := fun id r => sumMap_eq_zero (fun st hst => (hs.cons_plain st hst id r).2)
  have hz3 : ∀ id r, sumMap (upTok id r) out = 0 := fun id r => sumMap_eq_zero (fun st hst => (hs.out_plain st hst id r).1)
  have hz4 : ∀ id r, sumMap (upN groups r id) out = 0 := fun id r => sumMap_eq_zero (fun st hst => (hs.out_plain st hst id r).2)
  -- the conditions not listed are those of `hs`
  exact { hs with
    cons_S := by
      intro n _ r _
      rw [hs.contS_eq, hz1, hz3]
    rcons_S := by
      intro n _ r _
      rw [hz2]
      unfold rcptGot
      rw [hs.receipts]
      omega
    kept_S := by
      intro n hn r hr
      rw [hz1, hz3, hs.sentQ]
      exact h.kept x n hn r hr
    ret3 := by
      intro n hn g hg
      rw [hs.ownSK]
      rcases h.ret3 x n hn g hg with h1 | ⟨e, he, hf⟩
      · exact Or.inl h1
      · exact Or.inr ⟨e, hs.first_keep e he _ hf, hf⟩
    slots := by
      intro i
      have := h.slots x i
      unfold sendSlots at this ⊢
      rw [hs.slot_eq, hs.sentQ]
      exact this
    rids := by rw [hs.receipts]; exact h.rids x
    retq := by
      intro e he n w c hc hg
      rw [hs.sentQ]
      rcases hs.iq_new e he with h1 | ⟨p, q, h1⟩
      · exact h.retq x e h1 n w c hc hg
      · rw [h1] at hc; cases hc
    unop_out := by
      intro r _ n
      rw [hz4]
      exact ⟨by omega, fun hh => by omega⟩ }

end Yow.E2E
