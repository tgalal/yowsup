/-
  A message id that no submission carries has no token, receipt, showing or queue slot anywhere: every counted item
  belongs to a submission.  So the invariant extends to a new submission once its own clauses are shown (`TV.extend`).
-/
import YowsupVerif.Lemmas.E2ETokSrc
namespace Yow.E2E

section
variable {ex : Bool} {accts : List Acct} {groups : List (Nat × List Acct)}

theorem upOK_fresh {sub : List (Acct × Node)} {a : Acct} {st : Stanza} {i : Nat} (h : UpOK groups sub a st)
    (hf : ∀ p ∈ sub, p.2.id ≠ i) (r : Acct) : upTok i r st = 0 ∧ retryUpTok i st = 0 ∧ rcptIn i st = 0 := by
  cases st with
  | msg id dest part im encs pl =>
    obtain ⟨_, n, hn, hid, _⟩ := h
    have : id ≠ i := fun e => hf _ hn (hid.trans e)
    simp [upTok, this]
  | receipt id peer part t =>
    obtain ⟨a', n, hn, hid, _⟩ := h
    have : id ≠ i := fun e => hf _ hn (hid.trans e)
    cases t <;> simp [retryUpTok, rcptIn, deliveryReceiptFrom, this]
  | _ => exact ⟨rfl, rfl, rfl⟩

theorem downOK_fresh {sub : List (Acct × Node)} {a : Acct} {st : Stanza} {i : Nat} (h : DownOK accts groups sub a st)
    (hf : ∀ p ∈ sub, p.2.id ≠ i) (r : Acct) : downTok i st = 0 ∧ retryDownTok i r st = 0 ∧ rcptOut i r st = 0 := by
  cases st with
  | msg id dest part im encs pl =>
    obtain ⟨a', n, hn, hid, _⟩ := h
    have : id ≠ i := fun e => hf _ hn (hid.trans e)
    simp [downTok, this]
  | receipt id peer part t =>
    obtain ⟨n, hn, hid, _⟩ := h
    have : id ≠ i := fun e => hf _ hn (hid.trans e)
    cases t with
    | retry c => simp [retryDownTok, rcptOut, this]
    | delivery =>
      refine ⟨rfl, rfl, ?_⟩
      cases peer <;> cases part <;> simp [rcptOut, this]
  | _ => exact ⟨rfl, rfl, rfl⟩

theorem contOK_fresh {sub : List (Acct × Node)} {a : Acct} {k : Cont} {i : Nat} (h : ContOK accts groups sub a k)
    (hf : ∀ p ∈ sub, p.2.id ≠ i) (r : Acct) : contTok i r k = 0 ∧ slotTok i k = 0 := by
  cases k with
  | keysForSend n => have := hf _ h; simp [contTok, slotTok, this]
  | groupInfo n => have := hf _ h; simp [contTok, slotTok, this]
  | keysForGroup n a b => have := hf _ h.1; simp [contTok, slotTok, this]
  | keysForRetry n w c => have := hf _ h.1; simp [contTok, slotTok, this]
  | keysForPending p q => exact ⟨rfl, rfl⟩

theorem fresh_zero {s : Sys} (hA : AInv accts groups (abs s)) (hr : ∀ r e, e ∈ (getClient s r).receipts → ∃ p ∈ s.submitted, p.2.id = e.1)
    {i : Nat} (hf : ∀ p ∈ s.submitted, p.2.id ≠ i) (a r : Acct) :
    tokensV (view s) a i r = 0 ∧ receiptTokensV (view s) a i r = 0 ∧ shownC (getClient s r) i = 0 ∧ sendSlots (getClient s a) i = 0 := by
  have hsub : (abs s).submitted = s.submitted := rfl
  have h1 : contS i r (getClient s a).iqReg = 0 :=
    sumMap_eq_zero (fun e he => (contOK_fresh ((hA.client a).conts e.1 e.2 he) (hsub ▸ hf) r).1)
  have h1' : slotS i (getClient s a).iqReg = 0 :=
    sumMap_eq_zero (fun e he => (contOK_fresh ((hA.client a).conts e.1 e.2 he) (hsub ▸ hf) r).2)
  have hin : ∀ b st, st ∈ queueOf s.inbound b → upTok i r st = 0 ∧ retryUpTok i st = 0 ∧ rcptIn i st = 0 :=
    fun b st hst => upOK_fresh (hA.inb_ok b st hst).2.1 (hsub ▸ hf) r
  have hout : ∀ b st, st ∈ queueOf s.outbound b → downTok i st = 0 ∧ retryDownTok i r st = 0 ∧ rcptOut i r st = 0 :=
    fun b st hst => downOK_fresh (hA.outb_ok b st hst).2.1 (hsub ▸ hf) r
  have h2 : sumMap (upTok i r) (queueOf s.inbound a) = 0 := sumMap_eq_zero (fun st hst => (hin a st hst).1)
  have h3 : sumMap (downTok i) (queueOf s.outbound r) = 0 := sumMap_eq_zero (fun st hst => (hout r st hst).1)
  have h4 : pendS i (getClient s r).pendingIn = 0 :=
    sumMap_eq_zero (fun e he => sumMap_eq_zero (fun st hst => (downOK_fresh ((hA.client r).pend e.1 e.2 he st hst) (hsub ▸ hf) r).1))
  have h5 : sumMap (retryUpTok i) (queueOf s.inbound r) = 0 := sumMap_eq_zero (fun st hst => (hin r st hst).2.1)
  have h6 : sumMap (retryDownTok i r) (queueOf s.outbound a) = 0 := sumMap_eq_zero (fun st hst => (hout a st hst).2.1)
  have h7 : shownC (getClient s r) i = 0 := by
    unfold shownC
    rw [List.length_eq_zero_iff, List.filter_eq_nil_iff]
    intro x hx
    obtain ⟨a', n, hn, hid, _⟩ := (hA.client r).shown x hx
    have := hf _ hn
    simp only [beq_iff_eq]
    intro e
    exact this (hid.trans e)
  have h8 : sumMap (rcptIn i) (queueOf s.inbound r) = 0 := sumMap_eq_zero (fun st hst => (hin r st hst).2.2)
  have h9 : sumMap (rcptOut i r) (queueOf s.outbound a) = 0 := sumMap_eq_zero (fun st hst => (hout a st hst).2.2)
  have h10 : rcptGot (getClient s a) i r = 0 := by
    unfold rcptGot
    rw [List.length_eq_zero_iff, List.filter_eq_nil_iff]
    intro e he
    obtain ⟨p, hp, hid⟩ := hr a e he
    have := hf p hp
    have hne : ¬ e.1 = i := fun e' => this (hid.trans e')
    simp [hne]
  have h11 : sentS i (getClient s a).sentQueue = 0 :=
    sumMap_eq_zero (fun m hm => by
      have := hf _ ((hA.client a).sentQ m hm)
      simp only at this
      simp [this])
  refine ⟨?_, ?_, h7, ?_⟩
  · show contS i r (getClient s a).iqReg + sumMap (upTok i r) (queueOf s.inbound a) + sumMap (downTok i) (queueOf s.outbound r)
      + pendS i (getClient s r).pendingIn + sumMap (retryUpTok i) (queueOf s.inbound r)
      + sumMap (retryDownTok i r) (queueOf s.outbound a) + shownC (getClient s r) i = 0
    rw [h1, h2, h3, h4, h5, h6, h7]
  · show sumMap (rcptIn i) (queueOf s.inbound r) + sumMap (rcptOut i r) (queueOf s.outbound a) + rcptGot (getClient s a) i r = 0
    rw [h8, h9, h10]
  · show slotS i (getClient s a).iqReg + sentS i (getClient s a).sentQueue = 0
    rw [h1', h11]

theorem TV.addSub {L : List (Acct × Node)} {V : View} (h : TV ex accts groups L V) (p : Acct × Node) :
    TV ex accts groups L (V.addSub p) := by
  have hle : V.le (V.addSub p) := ⟨Nat.le_refl _, fun _ _ => Nat.le_refl _, fun q hq => List.mem_append_left _ hq⟩
  exact { h with
    downs := fun r st hst => (h.downs r st hst).mono hle
    kept := fun a n hn r hr => by
      rcases h.kept a n hn r hr with h1 | h1 | h1
      · exact Or.inl h1
      · exact Or.inr (Or.inl h1)
      · refine Or.inr (Or.inr ?_)
        show 100 < (V.submitted ++ [p]).length
        rw [List.length_append]; omega
    retq := fun a e he n w c hc hg => by
      rcases h.retq a e he n w c hc hg with h1 | h1
      · exact Or.inl h1
      · refine Or.inr ?_
        show 100 < (V.submitted ++ [p]).length
        rw [List.length_append]; omega
    rids := fun r e he => by
      obtain ⟨q, hq, hid⟩ := h.rids r e he
      exact ⟨q, List.mem_append_left _ hq, hid⟩ }

theorem TV.extend {L : List (Acct × Node)} {V : View} (h : TV ex accts groups L V) {a : Acct} {n : Node}
    (hneq : ∀ r, r ∈ intendedG groups a n → r ≠ a)
    (hcons : ∀ r, r ∈ intendedG groups a n → tokensV V a n.id r = 1)
    (hrcons : ∀ r, r ∈ intendedG groups a n → receiptTokensV V a n.id r = shownC (V.cl r) n.id)
    (hkept : ∀ r, r ∈ intendedG groups a n → inTransitV V a n.id r = 0 ∨ n ∈ (V.cl a).sentQueue ∨ 100 < V.submitted.length)
    (hret3 : ∀ g, n.dest = .group g → (lookup (V.cl a).ownSK g).isSome = true ∨ ∃ e ∈ (V.cl a).iqReg, firstGroupCont e.2 n.id) :
    TV ex accts groups (L ++ [(a, n)]) V := by
  have key : ∀ {P : Acct → Node → Prop}, (∀ a' n', (a', n') ∈ L → P a' n') → P a n → ∀ a' n', (a', n') ∈ L ++ [(a, n)] → P a' n' := by
    intro P h1 h2 a' n' hm
    rcases List.mem_append.mp hm with h3 | h3
    · exact h1 a' n' h3
    · rw [List.mem_singleton] at h3; cases h3; exact h2
  exact { h with
    neq := key h.neq hneq
    cons := key h.cons hcons
    rcons := key h.rcons (fun r hr => by unfold rcRel; rw [hrcons r hr]; split <;> simp)
    kept := key h.kept hkept
    ret3 := key h.ret3 hret3 }

end

end Yow.E2E
