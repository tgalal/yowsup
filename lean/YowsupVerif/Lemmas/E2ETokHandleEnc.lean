/-
  `handleEnc` (`AxolotlReceivelayer.handleEncMessage`) as a function `heC` of the recipient's record alone: which
  ciphertexts it picks from the stanza, what it makes of the record and what it emits, with one equation per outcome of
  the two decryptions.  `rstep_handleEnc` ties `heC` to the model function once; after that the token count (E2ETokRecv)
  and decryptability under faults (E2EDecMsg) argue about records only.  Builds on E2ETokRecvSpec.
-/
import YowsupVerif.Lemmas.E2ETokRecvSpec
namespace Yow.E2E

theorem firstKind_single (ct : Ct) (k : EncKind) : firstKind [((none : Option Acct), ct)] k = if ct.kind = k then some ct else none := by
  unfold firstKind
  by_cases h : ct.kind = k <;> simp [h]

theorem heFirst_single {ct : Ct} (h : ct.kind ≠ .skmsg) : heFirst [((none : Option Acct), ct)] = some ct := by
  unfold heFirst
  rw [firstKind_single, firstKind_single]
  cases hk : ct.kind
  · simp
  · simp
  · exact absurd hk h

theorem firstKind_append_sk {l : List (Option Acct × Ct)} {k : Ct} (hl : ∀ e ∈ l, e.2.kind ≠ .skmsg) (hk : k.kind = .skmsg) :
    firstKind (l ++ [((none : Option Acct), k)]) .skmsg = some k := by
  unfold firstKind
  rw [find?_append_singleton_pos (fun e he => beq_eq_false_iff_ne.mpr (hl e he)) (beq_iff_eq.mpr hk)]
  rfl

theorem firstKind_append_other {l : List (Option Acct × Ct)} {k : Ct} {kd : EncKind} (hk : k.kind = .skmsg) (hkd : kd ≠ .skmsg) :
    firstKind (l ++ [((none : Option Acct), k)]) kd = firstKind l kd := by
  unfold firstKind
  rw [find?_append_singleton_neg (p := fun e => e.2.kind == kd) l (beq_eq_false_iff_ne.mpr (fun e => hkd (e.symm.trans hk)))]

theorem heFirst_append_sk {l : List (Option Acct × Ct)} {k : Ct} (hk : k.kind = .skmsg) :
    heFirst (l ++ [((none : Option Acct), k)]) = heFirst l := by
  unfold heFirst
  rw [firstKind_append_other hk (by simp), firstKind_append_other hk (by simp)]

theorem firstKind_kind {encs : List (Option Acct × Ct)} {k : EncKind} {ct : Ct} (h : firstKind encs k = some ct) : ct.kind = k := by
  unfold firstKind at h
  cases hf : encs.find? (fun e => e.2.kind == k) with
  | none => rw [hf] at h; cases h
  | some e =>
    rw [hf] at h; cases h
    simpa using List.find?_some hf

theorem firstKind_none {encs : List (Option Acct × Ct)} {k : EncKind} (h : firstKind encs k = none) : ∀ e ∈ encs, e.2.kind ≠ k := by
  unfold firstKind at h
  intro e he hk
  exact List.find?_eq_none.mp (Option.map_eq_none_iff.mp h) e he (beq_iff_eq.mpr hk)

theorem heFirst_none_sk {encs : List (Option Acct × Ct)} (h : heFirst encs = none) : ∀ e ∈ encs, e.2.kind = .skmsg := by
  unfold heFirst at h
  intro e he
  cases h1 : firstKind encs .pkmsg with
  | some ct => rw [h1] at h; cases h
  | none =>
    rw [h1] at h
    cases hk : e.2.kind with
    | pkmsg => exact absurd hk (firstKind_none h1 e he)
    | msg => exact absurd hk (firstKind_none h e he)
    | skmsg => rfl

theorem heFirst_kind {encs : List (Option Acct × Ct)} {ct : Ct} (h : heFirst encs = some ct) : ct.kind ≠ .skmsg := by
  unfold heFirst at h
  split at h
  · next c' hc' => cases h; rw [firstKind_kind hc']; exact fun e => by cases e
  · rw [firstKind_kind h]; exact fun e => by cases e

theorem sk_single {k : Ct} (hk : k.kind = .skmsg) :
    heFirst [((none : Option Acct), k)] = none ∧ firstKind [((none : Option Acct), k)] .skmsg = some k := by
  unfold heFirst
  simp [firstKind_single, hk]

/-- what `handleEnc` picks from a queued message stanza: a pairwise ciphertext with the content and no sender-key
    ciphertext; or, in a group, the sender-key ciphertext with the content, and then a pairwise ciphertext, if there is
    one, carries none -/
theorem DownShape.found {id : Nat} {peer : Dest} {part : Option Acct} {im : Bool} {encs : List (Option Acct × Ct)} {pl : Option Payload}
    (h : DownShape (.msg id peer part im encs pl)) :
    (∃ ct, heFirst encs = some ct ∧ ct.plain.content.isSome = true ∧ firstKind encs .skmsg = none) ∨
    (∃ g k, peer = .group g ∧ firstKind encs .skmsg = some k ∧ k.plain.content.isSome = true ∧
      ∀ ct, heFirst encs = some ct → ct.plain.content = none) := by
  rcases h with ⟨ct, rfl, hk, hc⟩ | ⟨hg, l, k, rfl, hk, hc, hl⟩
  · exact Or.inl ⟨ct, heFirst_single hk, hc, (firstKind_single ct .skmsg).trans (if_neg hk)⟩
  · cases peer with
    | user b => cases hg
    | group g =>
      refine Or.inr ⟨g, k, rfl, firstKind_append_sk (fun e he => (hl e he).2.1) hk, hc, fun ct hct => ?_⟩
      rw [heFirst_append_sk hk] at hct
      obtain ⟨e, he, rfl⟩ := heFirst_mem hct
      exact (hl e he).2.2

/-- `surface` on the record; likewise `storeC`, `retryC`, `resetC`, `failC`, `stage2C` for `storeSkdm`, `sendRetry`,
    `resetRetries`, `onDecryptFailure`, `handleEnc.stage2` -/
def surfaceC (c : Client) (id : Nat) (peer : Dest) (part : Option Acct) (pl : Plain) : Client × List Stanza :=
  match pl.content with
  | some p => ({ c with shown := c.shown ++ [{ id := id, peer := peer, participant := part, payload := p }] },
      [.receipt id peer part .delivery])
  | none => (c, [])

theorem surfaceC_some {c : Client} {id : Nat} {peer : Dest} {part : Option Acct} {pl : Plain} {p : Payload} (h : pl.content = some p) :
    surfaceC c id peer part pl =
      ({ c with shown := c.shown ++ [{ id := id, peer := peer, participant := part, payload := p }] }, [.receipt id peer part .delivery]) := by
  unfold surfaceC; rw [h]

theorem surfaceC_none {c : Client} {id : Nat} {peer : Dest} {part : Option Acct} {pl : Plain} (h : pl.content = none) :
    surfaceC c id peer part pl = (c, []) := by
  unfold surfaceC; rw [h]

def storeC (c : Client) (sender : Acct) (pl : Plain) : Client :=
  match pl.skdm with
  | none => c
  | some (g, gen) => { c with peerSK := insert c.peerSK (g, sender) gen }

def retryC (c : Client) (id : Nat) (peer : Dest) (part : Option Acct) : Client × List Stanza :=
  ({ c with retries := insert c.retries id ((lookup c.retries id).getD 0 + 1) },
    [.receipt id peer part (.retry ((lookup c.retries id).getD 0 + 1))])

def resetC (c : Client) (id : Nat) : Client := { c with retries := erase c.retries id }

def failC (c : Client) (st : Stanza) (id : Nat) (peer : Dest) (part : Option Acct) (sender : Acct) : Dec → Client × List Stanza
  | .invalid => retryC c id peer part
  | .duplicate => (c, [.receipt id peer part .delivery])
  | .noSession =>
    ({ c with pendingIn := insert c.pendingIn (peer, part) ((lookup c.pendingIn (peer, part)).getD [] ++ [st]),
              nextIq := c.nextIq + 1, iqReg := c.iqReg ++ [(c.nextIq, .keysForPending peer part)] },
      [.getKeys c.nextIq [sender]])
  | .ok _ => (c, [])

def stage2C (c : Client) (st : Stanza) (id : Nat) (peer : Dest) (part : Option Acct) (sender : Acct)
    (encs : List (Option Acct × Ct)) : Client × List Stanza :=
  match firstKind encs .skmsg, peer with
  | some ct, .group g =>
    let d := groupDecrypt c g sender ct
    match d.2 with
    | .ok pl => ((resetC (surfaceC d.1 id peer part pl).1 id), (surfaceC d.1 id peer part pl).2)
    | .noSession => ((resetC (retryC d.1 id peer part).1 id), (retryC d.1 id peer part).2)
    | e => failC d.1 st id peer part sender e
  | _, _ => (resetC c id, [])

/-- `handleEnc` on the recipient's record: the new record and the stanzas emitted -/
def heC (c : Client) (id : Nat) (peer : Dest) (part : Option Acct) (im : Bool) (encs : List (Option Acct × Ct))
    (pl : Option Payload) : Client × List Stanza :=
  match heFirst encs with
  | none => stage2C c (.msg id peer part im encs pl) id peer part (whoOf peer part) encs
  | some ct =>
    let d := decrypt c (whoOf peer part) ct
    match d.2 with
    | .ok p =>
      let c1 := storeC d.1 (whoOf peer part) p
      let r2 := surfaceC c1 id peer part p
      let r3 := stage2C r2.1 (.msg id peer part im encs pl) id peer part (whoOf peer part) encs
      (r3.1, r2.2 ++ r3.2)
    | e => failC d.1 (.msg id peer part im encs pl) id peer part (whoOf peer part) e

section Eqs
variable {c c1 : Client} {st : Stanza} {id g : Nat} {peer : Dest} {part : Option Acct} {sender : Acct}
  {encs : List (Option Acct × Ct)} {ct : Ct}

theorem stage2C_plain (h : firstKind encs .skmsg = none ∨ ∃ b, peer = .user b) :
    stage2C c st id peer part sender encs = (resetC c id, []) := by
  unfold stage2C
  rcases h with h | ⟨b, rfl⟩
  · rw [h]
  · cases firstKind encs .skmsg <;> rfl

theorem stage2C_ok {pl : Plain} (h : firstKind encs .skmsg = some ct) (hd : groupDecrypt c g sender ct = (c1, .ok pl)) :
    stage2C c st id (.group g) part sender encs =
      (resetC (surfaceC c1 id (.group g) part pl).1 id, (surfaceC c1 id (.group g) part pl).2) := by
  unfold stage2C; rw [h]; dsimp only; rw [hd]

/-- a missing sender key is answered inside `handleSenderKeyMessage`, so the counter is still reset -/
theorem stage2C_noSession (h : firstKind encs .skmsg = some ct) (hd : groupDecrypt c g sender ct = (c1, .noSession)) :
    stage2C c st id (.group g) part sender encs = (resetC (retryC c1 id (.group g) part).1 id, (retryC c1 id (.group g) part).2) := by
  unfold stage2C; rw [h]; dsimp only; rw [hd]

theorem stage2C_fail {d : Dec} (h : firstKind encs .skmsg = some ct) (hd : groupDecrypt c g sender ct = (c1, d))
    (hd' : d = .invalid ∨ d = .duplicate) :
    stage2C c st id (.group g) part sender encs = failC c1 st id (.group g) part sender d := by
  unfold stage2C; rw [h]; dsimp only; rw [hd]
  rcases hd' with rfl | rfl <;> rfl

end Eqs

section HeEqs
variable {c c1 : Client} {id : Nat} {peer : Dest} {part : Option Acct} {im : Bool} {encs : List (Option Acct × Ct)} {pl : Option Payload}
  {ct : Ct}

theorem heC_none (hf : heFirst encs = none) :
    heC c id peer part im encs pl = stage2C c (.msg id peer part im encs pl) id peer part (whoOf peer part) encs := by
  unfold heC; rw [hf]

theorem heC_ok {p : Plain} (hf : heFirst encs = some ct) (hd : decrypt c (whoOf peer part) ct = (c1, .ok p)) :
    heC c id peer part im encs pl =
      ((stage2C (surfaceC (storeC c1 (whoOf peer part) p) id peer part p).1 (.msg id peer part im encs pl) id peer part
          (whoOf peer part) encs).1,
       (surfaceC (storeC c1 (whoOf peer part) p) id peer part p).2 ++
        (stage2C (surfaceC (storeC c1 (whoOf peer part) p) id peer part p).1 (.msg id peer part im encs pl) id peer part
          (whoOf peer part) encs).2) := by
  unfold heC; rw [hf]; dsimp only; rw [hd]

theorem heC_fail {d : Dec} (hf : heFirst encs = some ct) (hd : decrypt c (whoOf peer part) ct = (c1, d)) (hd' : ∀ p, d ≠ .ok p) :
    heC c id peer part im encs pl = failC c1 (.msg id peer part im encs pl) id peer part (whoOf peer part) d := by
  unfold heC; rw [hf]; dsimp only; rw [hd]
  cases d with
  | ok p => exact absurd rfl (hd' p)
  | _ => rfl

end HeEqs

theorem RStep.then_silent {s s1 s2 : Sys} {r : Acct} {c1 c2 : Client} {o : List Stanza}
    (h1 : RStep s s1 r c1 o) (h2 : RStep s1 s2 r c2 []) : RStep s s2 r c2 o := List.append_nil o ▸ h1.trans h2

section
variable {s : Sys} {r : Acct} {c : Client}

theorem rstep_surface (hr : r ∈ (view s).accounts) (hc : getClient s r = c) (id : Nat) (peer : Dest) (part : Option Acct) (pl : Plain) :
    RStep s (surface s r id peer part pl) r (surfaceC c id peer part pl).1 (surfaceC c id peer part pl).2 := by
  subst hc
  unfold surface surfaceC
  split
  · next p hp => simp only [hp]; exact rstep_setClient_emit hr _ _
  · next hp => simp only [hp]; exact RStep.refl' s r

theorem rstep_store (hr : r ∈ (view s).accounts) (hc : getClient s r = c) (sender : Acct) (pl : Plain) : RStep s (storeSkdm s r sender pl) r (storeC c sender pl) [] := by
  subst hc
  unfold storeSkdm storeC
  split
  · next hp => simp only [hp]; exact RStep.refl' s r
  · next g gen hp => simp only [hp]; exact rstep_setClient _ hr

theorem rstep_retry (hr : r ∈ (view s).accounts) (hc : getClient s r = c) (id : Nat) (peer : Dest) (part : Option Acct) :
    RStep s (sendRetry s r id peer part) r (retryC c id peer part).1 (retryC c id peer part).2 :=
  hc ▸ rstep_setClient_emit hr _ _

theorem rstep_reset (hr : r ∈ (view s).accounts) (hc : getClient s r = c) (id : Nat) :
    RStep s (resetRetries s r id) r (resetC c id) [] := hc ▸ rstep_setClient _ hr

theorem rstep_fail (hr : r ∈ (view s).accounts) (hc : getClient s r = c) (st : Stanza) (id : Nat) (peer : Dest) (part : Option Acct) (sender : Acct) (d : Dec) :
    RStep s (onDecryptFailure s r st id peer part sender d) r (failC c st id peer part sender d).1
      (failC c st id peer part sender d).2 := by
  subst hc
  cases d with
  | ok p => exact RStep.refl' s r
  | duplicate => exact rstep_emit s r _
  | invalid => exact rstep_setClient_emit hr _ _
  | noSession =>
    simp only [onDecryptFailure, failC]
    exact view_sendIq s r _ _ _ hr

end

theorem rstep_stage2 {s : Sys} {r : Acct} {c : Client} (hr : r ∈ (view s).accounts) (hc : getClient s r = c)
    (st : Stanza) (id : Nat) (peer : Dest) (part : Option Acct)
    (sender : Acct) (encs : List (Option Acct × Ct)) :
    RStep s (handleEnc.stage2 s r st id peer part sender encs) r (stage2C c st id peer part sender encs).1
      (stage2C c st id peer part sender encs).2 := by
  cases hfk : firstKind encs .skmsg with
  | none =>
    simp only [handleEnc.stage2, hfk]
    rw [stage2C_plain (Or.inl hfk)]
    exact rstep_reset hr hc id
  | some ct =>
    cases peer with
    | user b =>
      simp only [handleEnc.stage2, hfk]
      rw [stage2C_plain (Or.inr ⟨b, rfl⟩)]
      exact rstep_reset hr hc id
    | group g =>
      subst hc
      simp only [handleEnc.stage2, hfk]
      generalize hd : groupDecrypt (getClient s r) g sender ct = d
      obtain ⟨c1, dd⟩ := d
      have h1 := rstep_setClient (s := s) c1 hr
      cases dd with
      | ok pl =>
        rw [stage2C_ok hfk hd]
        have h2 := rstep_surface (h1.mem hr) h1.cl id (.group g) part pl
        exact (h1.trans h2).then_silent (rstep_reset (h2.mem (h1.mem hr)) h2.cl id)
      | noSession =>
        rw [stage2C_noSession hfk hd]
        have h2 := rstep_retry (h1.mem hr) h1.cl id (.group g) part
        exact (h1.trans h2).then_silent (rstep_reset (h2.mem (h1.mem hr)) h2.cl id)
      | invalid =>
        rw [stage2C_fail hfk hd (Or.inl rfl)]
        exact h1.trans (rstep_fail (h1.mem hr) h1.cl st id (.group g) part sender .invalid)
      | duplicate =>
        rw [stage2C_fail hfk hd (Or.inr rfl)]
        exact h1.trans (rstep_fail (h1.mem hr) h1.cl st id (.group g) part sender .duplicate)

theorem rstep_handleEnc {s : Sys} {r : Acct} (hr : r ∈ (view s).accounts) (id : Nat) (peer : Dest) (part : Option Acct) (im : Bool)
    (encs : List (Option Acct × Ct)) (pl : Option Payload) :
    RStep s (handleEnc s r (.msg id peer part im encs pl)) r (heC (getClient s r) id peer part im encs pl).1
      (heC (getClient s r) id peer part im encs pl).2 := by
  rw [handleEnc_eq]
  cases hf : heFirst encs with
  | none =>
    rw [heC_none hf]
    exact rstep_stage2 hr rfl _ id peer part _ encs
  | some ct =>
    simp only [heMain]
    generalize hd : decrypt (getClient s r) (whoOf peer part) ct = d
    obtain ⟨c1, dd⟩ := d
    have h1 := rstep_setClient (s := s) c1 hr
    by_cases hok : ∃ p, dd = .ok p
    · obtain ⟨p, rfl⟩ := hok
      rw [heC_ok hf hd]
      have h2 := rstep_store (h1.mem hr) h1.cl (whoOf peer part) p
      have h3 := rstep_surface (h2.mem (h1.mem hr)) h2.cl id peer part p
      have h4 := rstep_stage2 (h3.mem (h2.mem (h1.mem hr))) h3.cl (.msg id peer part im encs pl) id peer part (whoOf peer part) encs
      exact ((h1.trans h2).trans h3).trans h4
    · have hok : ∀ p, dd ≠ .ok p := fun p e => hok ⟨p, e⟩
      rw [heC_fail hf hd hok]
      cases dd with
      | ok p => exact absurd rfl (hok p)
      | _ => exact h1.trans (rstep_fail (h1.mem hr) h1.cl _ id peer part _ _)

end Yow.E2E
