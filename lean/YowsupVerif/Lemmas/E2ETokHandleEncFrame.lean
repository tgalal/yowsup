/-
  Which parts of the recipient's record `handleEnc` changes.  Each function it calls after the first decryption is `Calm`,
  and `Calm` composes, so one walk over `heC` (E2ETokHandleEnc) serves both the token count (E2ETokRecv: what is left alone)
  and decryptability (E2EDecMsg: what the sessions and keys are afterwards).
-/
import YowsupVerif.Lemmas.E2ETokHandleEnc
namespace Yow.E2E

/-- the fields of the recipient's record that handling a message stanza leaves alone (unless it is parked) -/
structure RecvSame (c c' : Client) : Prop where
  sentQ : c'.sentQueue = c.sentQueue
  receipts : c'.receipts = c.receipts
  ownSK : c'.ownSK = c.ownSK
  iqReg : c'.iqReg = c.iqReg
  pend : c'.pendingIn = c.pendingIn
  nextIq : c'.nextIq = c.nextIq

theorem RecvSame.rfl' (c : Client) : RecvSame c c := ⟨rfl, rfl, rfl, rfl, rfl, rfl⟩
theorem RecvSame.trans {c c1 c2 : Client} (h1 : RecvSame c c1) (h2 : RecvSame c1 c2) : RecvSame c c2 :=
  ⟨h2.sentQ.trans h1.sentQ, h2.receipts.trans h1.receipts, h2.ownSK.trans h1.ownSK, h2.iqReg.trans h1.iqReg,
   h2.pend.trans h1.pend, h2.nextIq.trans h1.nextIq⟩

/-- a change of the recipient's record that registers nothing and parks nothing, with only receipts going out -/
structure Quiet (c c' : Client) (out : List Stanza) : Prop where
  same : RecvSame c c'
  shown : ∀ id, shownC c id ≤ shownC c' id
  out : ∀ st ∈ out, (∀ id peer part im encs pl, st ≠ .msg id peer part im encs pl) ∧ stanzaIq st = none

theorem Quiet.rfl' (c : Client) : Quiet c c [] :=
  ⟨.rfl' c, fun _ => Nat.le_refl _, fun st hst => by cases hst⟩

theorem Quiet.trans {c c1 c2 : Client} {o1 o2 : List Stanza} (h1 : Quiet c c1 o1) (h2 : Quiet c1 c2 o2) : Quiet c c2 (o1 ++ o2) where
  same := h1.same.trans h2.same
  shown := fun id => Nat.le_trans (h1.shown id) (h2.shown id)
  out := by
    intro st hst
    rcases List.mem_append.mp hst with h | h
    · exact h1.out st h
    · exact h2.out st h

theorem Quiet.of_same {c c' : Client} (h : RecvSame c c') (hs : c'.shown = c.shown) : Quiet c c' [] :=
  ⟨h, fun id => Nat.le_of_eq (shownC_congr hs id).symm, fun st hst => by cases hst⟩

/-- `Quiet`, with sessions, peers' sender keys and opened pairwise ciphertexts untouched and every newly opened sender-key
    ciphertext among those `Q` allows -/
structure Calm (Q : Nat × Nat → Prop) (c c' : Client) (out : List Stanza) : Prop where
  quiet : Quiet c c' out
  sessions : c'.sessions = c.sessions
  peerSK : c'.peerSK = c.peerSK
  seen : c'.seen = c.seen
  seenSK : ∀ e ∈ c'.seenSK, e ∈ c.seenSK ∨ Q e

section Calm
variable {Q : Nat × Nat → Prop}

theorem Calm.quiet_seenSK {c c' : Client} {out : List Stanza} (h : Calm Q c c' out) :
    Quiet c c' out ∧ ∀ e ∈ c'.seenSK, e ∈ c.seenSK ∨ Q e := ⟨h.quiet, h.seenSK⟩

theorem Calm.trans {c c1 c2 : Client} {o1 o2 : List Stanza} (h1 : Calm Q c c1 o1) (h2 : Calm Q c1 c2 o2) : Calm Q c c2 (o1 ++ o2) where
  quiet := h1.quiet.trans h2.quiet
  sessions := h2.sessions.trans h1.sessions
  peerSK := h2.peerSK.trans h1.peerSK
  seen := h2.seen.trans h1.seen
  seenSK e he := (h2.seenSK e he).elim (h1.seenSK e) Or.inr

theorem Calm.then_silent {c c1 c2 : Client} {o : List Stanza} (h1 : Calm Q c c1 o) (h2 : Calm Q c1 c2 []) : Calm Q c c2 o :=
  List.append_nil o ▸ h1.trans h2

theorem Calm.of_quiet {c c' : Client} {out : List Stanza} (hq : Quiet c c' out) (h1 : c'.sessions = c.sessions)
    (h2 : c'.peerSK = c.peerSK) (h3 : c'.seen = c.seen) (h4 : c'.seenSK = c.seenSK) : Calm Q c c' out :=
  ⟨hq, h1, h2, h3, fun _ he => Or.inl (h4 ▸ he)⟩

theorem quiet_receipt (id : Nat) (peer : Dest) (part : Option Acct) (t : RType) :
    ∀ st ∈ [Stanza.receipt id peer part t], (∀ id peer part im encs pl, st ≠ .msg id peer part im encs pl) ∧ stanzaIq st = none := by
  intro st hst
  rw [List.mem_singleton] at hst; subst hst
  exact ⟨(fun _ _ _ _ _ _ e => by cases e), rfl⟩

variable (c : Client) (id : Nat) (peer : Dest) (part : Option Acct)

theorem calm_surface (pl : Plain) : Calm Q c (surfaceC c id peer part pl).1 (surfaceC c id peer part pl).2 := by
  unfold surfaceC
  split
  · refine Calm.of_quiet ⟨⟨rfl, rfl, rfl, rfl, rfl, rfl⟩, ?_, quiet_receipt id peer part .delivery⟩ rfl rfl rfl rfl
    intro id'
    unfold shownC
    simp only [List.filter_append, List.length_append]
    omega
  · exact Calm.of_quiet (Quiet.rfl' c) rfl rfl rfl rfl

theorem calm_retry : Calm Q c (retryC c id peer part).1 (retryC c id peer part).2 :=
  Calm.of_quiet ⟨⟨rfl, rfl, rfl, rfl, rfl, rfl⟩, fun _ => Nat.le_refl _, quiet_receipt id peer part _⟩ rfl rfl rfl rfl

theorem calm_reset : Calm Q c (resetC c id) [] := Calm.of_quiet (Quiet.of_same ⟨rfl, rfl, rfl, rfl, rfl, rfl⟩ rfl) rfl rfl rfl rfl

theorem calm_fail (st : Stanza) (sender : Acct) (d : Dec) (hd : d ≠ .noSession) :
    Calm Q c (failC c st id peer part sender d).1 (failC c st id peer part sender d).2 := by
  cases d with
  | ok p => exact Calm.of_quiet (Quiet.rfl' c) rfl rfl rfl rfl
  | invalid => exact calm_retry c id peer part
  | duplicate => exact Calm.of_quiet ⟨⟨rfl, rfl, rfl, rfl, rfl, rfl⟩, fun _ => Nat.le_refl _, quiet_receipt id peer part _⟩ rfl rfl rfl rfl
  | noSession => exact absurd rfl hd

theorem calm_groupDecrypt {g : Nat} {sender : Acct} {k : Ct} {c1 : Client} {d : Dec} (hd : groupDecrypt c g sender k = (c1, d))
    (hQ : Q (k.sess, k.ctr)) : Calm Q c c1 [] := by
  have h := groupDecrypt_cases c g sender k
  rw [hd] at h
  rcases h with ⟨_, h⟩ | ⟨h, _⟩
  · subst h
    refine ⟨Quiet.of_same ⟨rfl, rfl, rfl, rfl, rfl, rfl⟩ rfl, rfl, rfl, rfl, ?_⟩
    intro e he
    rcases List.mem_append.mp he with h1 | h1
    · exact Or.inl h1
    · rw [List.mem_singleton] at h1; exact Or.inr (h1 ▸ hQ)
  · subst h; exact Calm.of_quiet (Quiet.rfl' _) rfl rfl rfl rfl

end Calm

theorem calm_stage2 (c : Client) (id : Nat) (peer : Dest) (part : Option Acct) (st : Stanza) (sender : Acct)
    (encs : List (Option Acct × Ct)) :
    Calm (fun e => ∃ k, firstKind encs .skmsg = some k ∧ e = (k.sess, k.ctr)) c
      (stage2C c st id peer part sender encs).1 (stage2C c st id peer part sender encs).2 := by
  cases hfk : firstKind encs .skmsg with
  | none => rw [stage2C_plain (Or.inl hfk)]; exact calm_reset c id
  | some ct =>
    cases peer with
    | user b => rw [stage2C_plain (Or.inr ⟨b, rfl⟩)]; exact calm_reset c id
    | group g =>
      generalize hd : groupDecrypt c g sender ct = d
      obtain ⟨c1, dd⟩ := d
      have q1 := calm_groupDecrypt (Q := fun e => ∃ k, some ct = some k ∧ e = (k.sess, k.ctr)) c hd ⟨ct, rfl, rfl⟩
      cases dd with
      | ok pl =>
        rw [stage2C_ok hfk hd]
        exact (q1.trans (calm_surface c1 id (.group g) part pl)).then_silent (calm_reset _ id)
      | noSession =>
        rw [stage2C_noSession hfk hd]
        exact (q1.trans (calm_retry c1 id (.group g) part)).then_silent (calm_reset _ id)
      | invalid =>
        rw [stage2C_fail hfk hd (Or.inl rfl)]
        exact q1.trans (calm_fail c1 id (.group g) part st sender .invalid (by simp))
      | duplicate =>
        rw [stage2C_fail hfk hd (Or.inr rfl)]
        exact q1.trans (calm_fail c1 id (.group g) part st sender .duplicate (by simp))

theorem storeC_fields (c : Client) (sender : Acct) (pl : Plain) : RecvSame c (storeC c sender pl) ∧
    (storeC c sender pl).shown = c.shown ∧ (storeC c sender pl).sessions = c.sessions ∧
    (storeC c sender pl).seen = c.seen ∧ (storeC c sender pl).seenSK = c.seenSK := by
  unfold storeC
  split
  · exact ⟨.rfl' c, rfl, rfl, rfl, rfl⟩
  · exact ⟨⟨rfl, rfl, rfl, rfl, rfl, rfl⟩, rfl, rfl, rfl, rfl⟩

theorem decrypt_ok_or_same (c : Client) (x : Acct) (ct : Ct) :
    (∃ sess, decrypt c x ct = ({ c with sessions := sess, seen := c.seen ++ [(ct.sess, ct.ctr)] }, .ok ct.plain)) ∨
    (∃ d, decrypt c x ct = (c, d) ∧ ∀ p, d ≠ .ok p) := by
  rcases decrypt_cases c x ct with ⟨sess, h2, h1, _⟩ | ⟨h1, h2⟩
  · exact Or.inl ⟨sess, Prod.ext h1 h2⟩
  · refine Or.inr ⟨(decrypt c x ct).2, Prod.ext h1 rfl, ?_⟩
    intro p e
    rcases h2 with h | ⟨h, _⟩ | ⟨h, _⟩ <;> rw [h] at e <;> cases e

theorem heC_fields (c : Client) (id : Nat) (peer : Dest) (part : Option Acct) (im : Bool) (encs : List (Option Acct × Ct))
    (pl : Option Payload) :
    (heC c id peer part im encs pl).1.sessions =
      (match heFirst encs with | some ct => (decrypt c (whoOf peer part) ct).1.sessions | none => c.sessions) ∧
    (heC c id peer part im encs pl).1.seen =
      (match heFirst encs with | some ct => (decrypt c (whoOf peer part) ct).1.seen | none => c.seen) ∧
    (heC c id peer part im encs pl).1.peerSK =
      (match heFirst encs with
       | some ct => (match (decrypt c (whoOf peer part) ct).2 with
          | .ok p => (storeC (decrypt c (whoOf peer part) ct).1 (whoOf peer part) p).peerSK
          | _ => c.peerSK)
       | none => c.peerSK) := by
  cases hf : heFirst encs with
  | none =>
    rw [heC_none hf]
    have q := calm_stage2 c id peer part (.msg id peer part im encs pl) (whoOf peer part) encs
    exact ⟨q.sessions, q.seen, q.peerSK⟩
  | some ct =>
    dsimp only
    rcases decrypt_ok_or_same c (whoOf peer part) ct with ⟨sess, hd⟩ | ⟨d, hd, hok⟩
    · rw [heC_ok hf hd, hd]
      dsimp only
      obtain ⟨_, _, s1, s2, _⟩ := storeC_fields { c with sessions := sess, seen := c.seen ++ [(ct.sess, ct.ctr)] } (whoOf peer part) ct.plain
      generalize storeC { c with sessions := sess, seen := c.seen ++ [(ct.sess, ct.ctr)] } (whoOf peer part) ct.plain = c2 at s1 s2 ⊢
      have q := (calm_surface c2 id peer part ct.plain).trans
        (calm_stage2 _ id peer part (.msg id peer part im encs pl) (whoOf peer part) encs)
      exact ⟨q.sessions.trans s1, q.seen.trans s2, q.peerSK⟩
    · rw [heC_fail hf hd hok, hd]
      cases d with
      | ok p => exact absurd rfl (hok p)
      | _ => exact ⟨rfl, rfl, rfl⟩

theorem quiet_heC (c : Client) (id : Nat) (peer : Dest) (part : Option Acct) (im : Bool) (encs : List (Option Acct × Ct))
    (pl : Option Payload) (hns : ∀ ct, heFirst encs = some ct → (decrypt c (whoOf peer part) ct).2 ≠ .noSession) :
    Quiet c (heC c id peer part im encs pl).1 (heC c id peer part im encs pl).2 ∧
    ∀ e ∈ (heC c id peer part im encs pl).1.seenSK, e ∈ c.seenSK ∨ ∃ k, firstKind encs .skmsg = some k ∧ e = (k.sess, k.ctr) := by
  cases hf : heFirst encs with
  | none =>
    rw [heC_none hf]
    exact (calm_stage2 c id peer part _ _ encs).quiet_seenSK
  | some ct =>
    have hns' := hns ct hf
    rcases decrypt_ok_or_same c (whoOf peer part) ct with ⟨sess, hd⟩ | ⟨d, hd, hok⟩
    · rw [heC_ok hf hd]
      obtain ⟨q0, hsh, _, _, s3⟩ := storeC_fields { c with sessions := sess, seen := c.seen ++ [(ct.sess, ct.ctr)] } (whoOf peer part) ct.plain
      generalize storeC { c with sessions := sess, seen := c.seen ++ [(ct.sess, ct.ctr)] } (whoOf peer part) ct.plain = c2 at q0 hsh s3 ⊢
      have q := (calm_surface c2 id peer part ct.plain).trans
        (calm_stage2 _ id peer part (.msg id peer part im encs pl) (whoOf peer part) encs)
      have q0 : Quiet c c2 [] := Quiet.of_same ⟨q0.sentQ, q0.receipts, q0.ownSK, q0.iqReg, q0.pend, q0.nextIq⟩ hsh
      exact ⟨q0.trans q.quiet, fun e he => (q.seenSK e he).imp_left (fun h => s3 ▸ h)⟩
    · rw [heC_fail hf hd hok]
      rw [hd] at hns'
      exact (calm_fail c id peer part _ _ d hns').quiet_seenSK

end Yow.E2E
