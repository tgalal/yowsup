/-
  The invariant `TV` of token conservation over the functional view, its ingredients (what is counted, the shapes of
  stanzas), and the invariant `TInv` of the induction.
-/
import YowsupVerif.Lemmas.E2ETokBase
namespace Yow.E2E

def contS (id : Nat) (r : Acct) (l : List (Nat × Cont)) : Nat := sumMap (fun e => contTok id r e.2) l
def pendS (id : Nat) (l : List ((Dest × Option Acct) × List Stanza)) : Nat := sumMap (fun e => sumMap (downTok id) e.2) l
def shownC (c : Client) (id : Nat) : Nat := (c.shown.filter (fun x => x.id == id)).length

def tokensV (V : View) (a : Acct) (id : Nat) (r : Acct) : Nat :=
  contS id r (V.cl a).iqReg + sumMap (upTok id r) (V.inb a) + sumMap (downTok id) (V.outb r) + pendS id (V.cl r).pendingIn
  + sumMap (retryUpTok id) (V.inb r) + sumMap (retryDownTok id r) (V.outb a) + shownC (V.cl r) id

theorem tokens_eq (s : Sys) (a : Acct) (id : Nat) (r : Acct) : tokens s a id r = tokensV (view s) a id r := rfl

def inTransitV (V : View) (a : Acct) (id : Nat) (r : Acct) : Nat :=
  sumMap (upTok id r) (V.inb a) + sumMap (downTok id) (V.outb r) + pendS id (V.cl r).pendingIn
  + sumMap (retryUpTok id) (V.inb r) + sumMap (retryDownTok id r) (V.outb a)

theorem inTransit_eq (s : Sys) (a : Acct) (id : Nat) (r : Acct) : inTransit s a id r = inTransitV (view s) a id r := rfl

def rcptIn (id : Nat) (st : Stanza) : Nat := if deliveryReceiptFrom id st then 1 else 0
def rcptOut (id : Nat) (r : Acct) (st : Stanza) : Nat :=
  match st with
  | .receipt id' (.user r') none .delivery => if id' = id ∧ r' = r then 1 else 0
  | .receipt id' (.group _) (some r') .delivery => if id' = id ∧ r' = r then 1 else 0
  | _ => 0
def rcptGot (c : Client) (id : Nat) (r : Acct) : Nat :=
  (c.receipts.filter (fun e =>
      e.1 == id && e.2.2.2 == RType.delivery && (e.2.2.1 == some r || (e.2.2.1.isNone && e.2.1 == Dest.user r)))).length

def receiptTokensV (V : View) (a : Acct) (id : Nat) (r : Acct) : Nat :=
  sumMap (rcptIn id) (V.inb r) + sumMap (rcptOut id r) (V.outb a) + rcptGot (V.cl a) id r

theorem receiptTokens_eq (s : Sys) (a : Acct) (id : Nat) (r : Acct) : receiptTokens s a id r = receiptTokensV (view s) a id r := rfl

theorem shownCount_eq (s : Sys) (r : Acct) (id : Nat) : shownCount s r id = shownC ((view s).cl r) id := rfl

-- nonces on their way to `r`
def ctrsOf (st : Stanza) : List Nat := (ctsOf st).map (fun e => e.2.ctr)
def nOf (x : Nat) (st : Stanza) : Nat := (ctrsOf st).count x
def upGuard (groups : List (Nat × List Acct)) (r : Acct) (st : Stanza) : Bool :=
  isMsg st && (match st with
    | .msg _ (.group g) none _ _ _ => ((lookup groups g).getD []).contains r
    | _ => true)
def upN (groups : List (Nat × List Acct)) (r : Acct) (x : Nat) (st : Stanza) : Nat :=
  if upGuard groups r st then ((ctsFor r st).map (·.ctr)).count x else 0
def pendN (x : Nat) (l : List ((Dest × Option Acct) × List Stanza)) : Nat := sumMap (fun e => sumMap (nOf x) e.2) l
def wayV (accts : List Acct) (V : View) (r : Acct) (x : Nat) : Nat :=
  sumMap (nOf x) (V.outb r) + pendN x (V.cl r).pendingIn
  + sumMap (fun a => if a = r then 0 else sumMap (upN V.groups r x) (V.inb a)) accts

-- the sender's slot for a message: waiting for its first send / for a 1:1 resend, or in the sent queue
def slotTok (i : Nat) : Cont → Nat
  | .keysForSend n => if n.id = i then 1 else 0
  | .groupInfo n => if n.id = i then 1 else 0
  | .keysForGroup n _ _ => if n.id = i then 1 else 0
  | .keysForRetry n _ _ => if n.id = i ∧ isGroupDest n.dest = false then 1 else 0
  | .keysForPending _ _ => 0
def slotS (i : Nat) (l : List (Nat × Cont)) : Nat := sumMap (fun e => slotTok i e.2) l
def sentS (i : Nat) (l : List Node) : Nat := sumMap (fun m => if m.id = i then 1 else 0) l
def sendSlots (c : Client) (i : Nat) : Nat := slotS i c.iqReg + sentS i c.sentQueue

def ContShape : Cont → Prop
  | .keysForSend n => isGroupDest n.dest = false
  | .groupInfo n => isGroupDest n.dest = true
  | .keysForGroup n _ _ => isGroupDest n.dest = true
  | .keysForRetry _ _ c => 1 ≤ c
  | .keysForPending _ _ => True

def firstGroupCont (k : Cont) (i : Nat) : Prop :=
  match k with
  | .groupInfo n => n.id = i
  | .keysForGroup n _ _ => n.id = i
  | _ => False

/-- one pairwise ciphertext carrying the content -/
def ShapeA (encs : List (Option Acct × Ct)) : Prop :=
  ∃ ct, encs = [(none, ct)] ∧ ct.kind ≠ .skmsg ∧ ct.plain.content.isSome = true

/-- sender-key distributions (without content) and the sender-key ciphertext carrying the content -/
def ShapeB (tag : Option Acct → Prop) (encs : List (Option Acct × Ct)) : Prop :=
  ∃ l k, encs = l ++ [(none, k)] ∧ k.kind = .skmsg ∧ k.plain.content.isSome = true ∧
    ∀ e ∈ l, tag e.1 ∧ e.2.kind ≠ .skmsg ∧ e.2.plain.content = none

def UpShape : Stanza → Prop
  | .msg _ (.user _) part _ encs _ => part = none ∧ ShapeA encs
  | .msg _ (.group _) (some _) _ encs _ => ShapeA encs
  | .msg _ (.group _) none _ encs _ => ShapeB (fun t => t.isSome = true) encs
  | _ => True

def DownShape : Stanza → Prop
  | .msg _ peer _ _ encs _ => ShapeA encs ∨ (isGroupDest peer = true ∧ ShapeB (fun t => t = none) encs)
  | _ => True

def CtsOK (k : Nat) (st : Stanza) : Prop := ∀ e ∈ ctsOf st, e.2.corrupt = false ∧ e.2.ctr < k

def RecShape (n : Node) (peer : Dest) (part : Option Acct) : Prop :=
  match n.dest with
  | .user b => peer = .user b ∧ part = none
  | .group g => peer = .group g ∧ part.isSome = true

def upDir : Stanza → Prop
  | .keys .. => False
  | .groupInfo .. => False
  | _ => True

def downDir : Stanza → Prop
  | .getKeys .. => False
  | .getGroup .. => False
  | _ => True

/-- a stanza in the connection of a client with record `c` (nonces below `k`) -/
structure UpGood (k : Nat) (c : Client) (st : Stanza) : Prop where
  dir : upDir st
  cts : CtsOK k st
  shape : UpShape st
  honest : ∀ id peer part, st = .receipt id peer part .delivery → 1 ≤ shownC c id
  retry : ∀ id peer part cnt, st = .receipt id peer part (.retry cnt) → 1 ≤ cnt

/-- a stanza queued for client `a` -/
structure DownGood (V : View) (a : Acct) (st : Stanza) : Prop where
  dir : downDir st
  cts : CtsOK V.nextCtr st
  shape : DownShape st
  rcpt : ∀ id peer part t, st = .receipt id peer part t →
    (∃ n, (a, n) ∈ V.submitted ∧ n.id = id ∧ RecShape n peer part) ∧
    (t = .delivery → 1 ≤ shownC (V.cl (whoOf peer part)) id) ∧ (∀ cnt, t = .retry cnt → 1 ≤ cnt)

/-- a stanza parked under `key` -/
def ParkGood (k : Nat) (key : Dest × Option Acct) (st : Stanza) : Prop :=
  (∃ id im encs pl, st = .msg id key.1 key.2 im encs pl) ∧ CtsOK k st ∧ DownShape st

structure ClientGood (k : Nat) (c : Client) : Prop where
  seen : ∀ e ∈ c.seen, e.2 < k
  seenSK : ∀ e ∈ c.seenSK, e.2 < k
  conts : ∀ e ∈ c.iqReg, ContShape e.2
  iqKeys : keysNodup c.iqReg
  pendKeys : keysNodup c.pendingIn
  parked : ∀ e ∈ c.pendingIn, ∀ st ∈ e.2, ParkGood k e.1 st

/-- the part of the invariant that only ever gets "more true" -/
def View.le (V V' : View) : Prop :=
  V.nextCtr ≤ V'.nextCtr ∧ (∀ r id, shownC (V.cl r) id ≤ shownC (V'.cl r) id) ∧ (∀ p, p ∈ V.submitted → p ∈ V'.submitted)

/-- receipts against showings: exactly as many (fault-free runs), or at least as many (duplicated deliveries are
    acknowledged again) -/
def rcRel (ex : Bool) (rt sc : Nat) : Prop := if ex = true then rt = sc else sc ≤ rt

theorem rcRel_shift {ex : Bool} {rt sc rt' sc' : Nat} (h : rcRel ex rt sc) (he : rt' + sc = rt + sc') : rcRel ex rt' sc' := by
  cases ex
  · have h : sc ≤ rt := h
    show sc' ≤ rt'
    omega
  · have h : rt = sc := h
    show rt' = sc'
    omega

/-- the invariant over the view; `L`: the submissions it speaks about (all of them, except in the middle of `appSend`) -/
structure TV (ex : Bool) (accts : List Acct) (groups : List (Nat × List Acct)) (L : List (Acct × Node)) (V : View) : Prop where
  acc : V.accounts = accts
  grp : V.groups = groups
  clients : ∀ r, ClientGood V.nextCtr (V.cl r)
  ups : ∀ r st, st ∈ V.inb r → UpGood V.nextCtr (V.cl r) st
  downs : ∀ r st, st ∈ V.outb r → DownGood V r st
  neq : ∀ a n, (a, n) ∈ L → ∀ r, r ∈ intendedG groups a n → r ≠ a
  cons : ∀ a n, (a, n) ∈ L → ∀ r, r ∈ intendedG groups a n → tokensV V a n.id r = 1
  rcons : ∀ a n, (a, n) ∈ L → ∀ r, r ∈ intendedG groups a n → rcRel ex (receiptTokensV V a n.id r) (shownC (V.cl r) n.id)
  ans : ∀ r, (∀ e ∈ (V.cl r).iqReg, ∃ st ∈ V.inb r ++ V.outb r, stanzaIq st = some e.1) ∧
    (∀ e ∈ (V.cl r).pendingIn, ∃ k ∈ (V.cl r).iqReg, k.2 = Cont.keysForPending e.1.1 e.1.2)
  unop : ∀ r, r ∈ accts → ∀ x, wayV accts V r x ≤ 1 ∧
    (1 ≤ wayV accts V r x → x ∉ (V.cl r).seen.map Prod.snd ∧ x ∉ (V.cl r).seenSK.map Prod.snd)
  kept : ∀ a n, (a, n) ∈ L → ∀ r, r ∈ intendedG groups a n → inTransitV V a n.id r = 0 ∨ n ∈ (V.cl a).sentQueue ∨ 100 < V.submitted.length
  ret3 : ∀ a n, (a, n) ∈ L → ∀ g, n.dest = .group g →
    (lookup (V.cl a).ownSK g).isSome = true ∨ ∃ e ∈ (V.cl a).iqReg, firstGroupCont e.2 n.id
  slots : ∀ a i, sendSlots (V.cl a) i ≤ 1
  rids : ∀ r e, e ∈ (V.cl r).receipts → ∃ p ∈ V.submitted, p.2.id = e.1
  retq : ∀ a e, e ∈ (V.cl a).iqReg → ∀ n w c, e.2 = Cont.keysForRetry n w c → isGroupDest n.dest = true →
    n ∈ (V.cl a).sentQueue ∨ 100 < V.submitted.length

def TInv (ex : Bool) (accts : List Acct) (groups : List (Nat × List Acct)) (s : Sys) : Prop :=
  AInv accts groups (abs s) ∧ TV ex accts groups s.submitted (view s)

theorem TV.mem_acc {ex : Bool} {accts : List Acct} {groups : List (Nat × List Acct)} {L : List (Acct × Node)} {V : View}
    (h : TV ex accts groups L V) {a : Acct} (ha : a ∈ accts) : a ∈ V.accounts := h.acc ▸ ha

end Yow.E2E
