/-
  The answer to a key or group query arrives at a client whose continuation holds the token of a message to send: the
  continuation is taken out, sessions are made (`Src.ofKeys`), and `onIqResult_cases` names the send that is resumed.
-/
import YowsupVerif.Lemmas.E2ETokKeys
namespace Yow.E2E

section
variable {ex : Bool} {accts : List Acct} {groups : List (Nat × List Acct)}

theorem finish_sender {L : List (Acct × Node)} {s s' : Sys} {a : Acct} {cons rest : List Stanza} {c' : Client}
    {out : List Stanza} {k : Nat} (hn : accts.Nodup) (hT : TV ex accts groups L (view s))
    (hss : SenderStep accts groups L (view s) a cons rest c' out k)
    (hv : view s' = ((view s).popOut a rest).cstep a c' out k) : TV ex accts groups L (view s') :=
  hv ▸ TV.client_step hn hT (hss.toCStepOK hT)

theorem SameBut.eraseIq (c : Client) (iq : Nat) : SameBut c { c with iqReg := erase c.iqReg iq } :=
  ⟨rfl, rfl, rfl, rfl, rfl, rfl, rfl, rfl⟩

theorem Src.tv_sent_all {L : List (Acct × Node)} {s s1 s' : Sys} {x : Acct} {cons rest : List Stanza} {c1 : Client} {n : Node}
    {who : Option Acct} (hn : accts.Nodup) (hT : TV ex accts groups L (view s))
    (hs : Src accts groups L (view s) x cons rest c1 n who)
    (hv : view s1 = ((view s).popOut x rest).cstep x c1 [] (view s).nextCtr) (hm : MsgSent s1 x c1 n none s')
    (hall : ∀ r, r ∈ intendedG groups x n → who = none ∨ who = some r) (hslotc : who = none ∨ isGroupDest n.dest = false)
    (hq : ∀ m ∈ c1.sentQueue, (x, m) ∈ (view s).submitted) (hsub : (x, n) ∈ (view s).submitted) :
    TV ex accts groups L (view s') := by
  obtain ⟨_, _, _, _, hv', hss, _⟩ := hs.sent_all hT hv hm hall hslotc hq hsub
  exact finish_sender hn hT hss hv'

theorem Src.tv_asked {L : List (Acct × Node)} {s s1 : Sys} {x : Acct} {cons rest pre : List Stanza} {c1 : Client} {n : Node}
    {who : Option Acct} (hn : accts.Nodup) (hT : TV ex accts groups L (view s))
    (hs : Src accts groups L (view s) x cons rest c1 n who)
    (hv : view s1 = ((view s).popOut x rest).cstep x c1 pre (view s).nextCtr) (hpre : ∀ p ∈ pre, PlainUp p ∧ stanzaIq p = none)
    {mk : Nat → Stanza} {k1 : Cont} (hmk : PlainUp (mk c1.nextIq)) (hiq : stanzaIq (mk c1.nextIq) = some c1.nextIq)
    (hnode : contNode k1 = some (n, who)) (hshape : ContShape k1)
    (hretq : ∀ w, who = some w → isGroupDest n.dest = true → n ∈ c1.sentQueue ∨ 100 < (view s).submitted.length) :
    TV ex accts groups L (view (sendIq s1 x c1 mk k1)) := by
  obtain ⟨hv', hss⟩ := hs.asked hT hv hpre hmk hiq hnode hshape hretq
  exact finish_sender hn hT hss hv'

theorem contTok_of_firstGroupCont {k : Cont} {i : Nat} (h : firstGroupCont k i) (r : Acct) : contTok i r k = 1 := by
  cases k with
  | groupInfo n => exact if_pos h
  | keysForGroup n al aq => exact if_pos h
  | _ => exact h.elim

/-- a resend to a group participant is only ever waited for once the own sender key exists -/
theorem retry_has_ownSK {L : List (Acct × Node)} {V : View} (hT : TV ex accts groups L V) {a : Acct} {iq : Nat} {m : Node} {w : Acct}
    {cnt g : Nat} (hmem : (iq, Cont.keysForRetry m w cnt) ∈ (V.cl a).iqReg) (hsub : (a, m) ∈ L) (hw : w ∈ intendedG groups a m)
    (hmd : m.dest = .group g) : (lookup (V.cl a).ownSK g).isSome = true := by
  rcases hT.ret3 a m hsub g hmd with h1 | ⟨e, he, hf⟩
  · exact h1
  · -- else a continuation of the first send and the one of the resend both hold the token of `(m, w)`, of which there is one
    exfalso
    have hne : e ≠ (iq, Cont.keysForRetry m w cnt) := by
      intro e'; rw [e'] at hf; exact hf
    have h2 := sumMap_two_le (f := fun e => contTok m.id w e.2) he hmem hne
    have h3 := contTok_of_firstGroupCont hf w
    have h4 : contTok m.id w (Cont.keysForRetry m w cnt) = 1 := if_pos ⟨rfl, rfl⟩
    have h5 := hT.cons a m hsub w hw
    rw [tokensV_eq] at h5
    simp only at h2
    rw [h3, h4] at h2
    simp only [contS] at h5
    omega

theorem Src.ofKeys {s : Sys} {a : Acct} {hd : Stanza} {rest : List Stanza} {iq : Nat} {got : List Acct} {k0 : Cont} {n : Node}
    {who : Option Acct} (hA : AInv accts groups (abs s)) (hT : TV ex accts groups s.submitted (view s)) (ha : a ∈ accts)
    (hq : queueOf s.outbound a = hd :: rest) (hiq : stanzaIq hd = some iq)
    (hplain : ∀ id r, downTok id hd = 0 ∧ nOf id hd = 0 ∧ rcptOut id r hd = 0 ∧ retryDownTok id r hd = 0)
    (hk0 : lookup (getClient s a).iqReg iq = some k0) (hnode : contNode k0 = some (n, who))
    (hgot : ∀ j, j ∈ E2E.asked k0 → j ∈ got) :
    ∃ s1, processKeys (setClient { s with outbound := insert s.outbound a rest } a
        { getClient s a with iqReg := erase (getClient s a).iqReg iq }) a (E2E.asked k0) got = (s1, E2E.asked k0) ∧
      view s1 = ((view s).popOut a rest).cstep a (getClient s1 a) [] (view s).nextCtr ∧
      Src accts groups s.submitted (view s) a [hd] rest (getClient s1 a) n who ∧ SameBut (getClient s a) (getClient s1 a) ∧
      ∀ j, j ∈ E2E.asked k0 → (lookup (getClient s1 a).sessions j).isSome = true := by
  have hacc : a ∈ (view s).accounts := hT.mem_acc ha
  have hv0 := view_popClient hacc rest { getClient s a with iqReg := erase (getClient s a).iqReg iq }
  obtain ⟨s1, c1, hpk, hv1, hkd⟩ := processKeys_keyed a got (E2E.asked k0) _ (by rw [hv0]; exact hacc) hgot
  have hgc0 : getClient (setClient { s with outbound := insert s.outbound a rest } a
      { getClient s a with iqReg := erase (getClient s a).iqReg iq }) a = { getClient s a with iqReg := erase (getClient s a).iqReg iq } :=
    (congrFun (congrArg View.cl hv0) a).trans (View.cstep_cl_same _ _ _ _ _)
  rw [hgc0] at hkd
  obtain ⟨hsame1, hreg1, hsess1, _⟩ := hkd.same
  rw [hv0, View.cstep_cstep] at hv1
  obtain rfl : getClient s1 a = c1 := (congrFun (congrArg View.cl hv1) a).trans (View.cstep_cl_same _ _ _ _ _)
  have hsame : SameBut (getClient s a) (getClient s1 a) := (SameBut.eraseIq _ iq).trans hsame1
  exact ⟨s1, hpk, hv1, Src.ofCont hA hT ha hq hiq hplain hk0 hnode hsame hreg1, hsame, hsess1⟩

theorem onIqResult_sender' (hw : WFConfig accts groups) {s : Sys} {a : Acct} {hd : Stanza} {rest : List Stanza} {iq : Nat}
    {got ms : List Acct} {k0 : Cont} {n : Node} {who : Option Acct}
    (hA : AInv accts groups (abs s)) (hT : TV ex accts groups s.submitted (view s)) (ha : a ∈ accts)
    (hq : queueOf s.outbound a = hd :: rest) (hiq : stanzaIq hd = some iq)
    (hplain : ∀ id r, downTok id hd = 0 ∧ nOf id hd = 0 ∧ rcptOut id r hd = 0 ∧ retryDownTok id r hd = 0)
    (hk0 : lookup (getClient s a).iqReg iq = some k0) (hnode : contNode k0 = some (n, who))
    (hgot : ∀ j, j ∈ asked k0 → j ∈ got) :
    TV ex accts groups s.submitted (view (onIqResult { s with outbound := insert s.outbound a rest } a iq got ms)) := by
  have hn := hw.1
  have hmem0 : (iq, k0) ∈ (getClient s a).iqReg := lookup_mem hk0
  obtain ⟨hnsub, hwho⟩ := contNode_sub hnode ((hA.client a).conts iq k0 hmem0)
  have hshape : ContShape k0 := (hT.clients a).conts _ hmem0
  obtain ⟨s1, hpk, hv1, hsrc, hsame, hsess⟩ := Src.ofKeys hA hT ha hq hiq hplain hk0 hnode hgot
  have hsq : ∀ m ∈ (getClient s1 a).sentQueue, (a, m) ∈ s.submitted := by
    intro m hm
    rw [hsame.sentQ] at hm
    exact (hA.client a).sentQ m hm
  have hacc : a ∈ (view s1).accounts := by rw [hv1]; exact hT.mem_acc ha
  refine onIqResult_cases (P := fun s' => TV ex accts groups s.submitted (view s')) hk0 hpk hshape
    (fun p q e => by rw [e] at hnode; cases hnode) ?_ ?_ ?_ ?_
  · intro m b hk hmd
    subst hk
    cases hnode
    exact hsrc.tv_sent_all hn hT hv1 (sendToContact_sent hacc hmd (hsess b (by simp [asked, hmd]))) (fun _ _ => Or.inl rfl)
      (Or.inl rfl) hsq hnsub
  · intro m w cnt hk
    subst hk
    cases hnode
    have hwint : w ∈ intendedG groups a n := hwho w rfl
    have hsw : (lookup (getClient s1 a).sessions w).isSome = true := hsess w (List.mem_singleton_self w)
    have hown : ∀ g, n.dest = .group g → (lookup (getClient s1 a).ownSK g).isSome = true := fun g hmd => by
      rw [hsame.ownSK]
      exact retry_has_ownSK hT hmem0 hnsub hwint hmd
    refine processPlaintext_cases (P := fun s' => TV ex accts groups s.submitted (view s')) s1 a _ n (some (w, cnt))
      ?_ ?_ ?_ (fun _ _ _ e => nomatch e) ?_
    · intro b hmd hs
      have hwb : ∀ r, r ∈ intendedG groups a n → r = w := fun r hr => intendedG_single (by rw [hmd]; rfl) hr hwint
      exact hsrc.tv_sent_all hn hT hv1 (sendToContact_sent hacc hmd hs) (fun r hr => Or.inr (congrArg some (hwb r hr).symm))
        (Or.inr (by rw [hmd]; rfl)) hsq hnsub
    · intro b hmd hs
      unfold intendedG at hwint
      rw [hmd, List.mem_singleton] at hwint
      rw [← hwint, hsw] at hs
      cases hs
    · intro g hmd hno
      have := hown g hmd
      rw [hno] at this
      cases this
    · intro g w' cnt' hmd _ e
      cases e
      have hin : n ∈ (getClient s1 a).sentQueue ∨ 100 < (view s).submitted.length := by
        rw [hsame.sentQ]
        exact hT.retq a _ hmem0 n w cnt rfl (by rw [hmd]; rfl)
      obtain ⟨_, _, _, hv', hss⟩ := hsrc.sent_one hT hv1 (sgws_retry_sent hacc hmd hshape hsw) hin
      exact finish_sender hn hT hss hv'
  · intro m g hk hmd
    subst hk
    cases hnode
    refine ensureSessionsAndSend_cases (P := fun s' => TV ex accts groups s.submitted (view s')) s1 a _ n g _ ?_ ?_
    · exact fun _ => hsrc.tv_sent_all hn hT hv1 (sgws_first_sent _ hacc hmd) (fun _ _ => Or.inl rfl) (Or.inl rfl) hsq hnsub
    · exact hsrc.tv_asked hn hT hv1 (fun p hp => nomatch hp) (PlainUp.getKeys _ _) rfl rfl (by rw [ContShape, hmd]; rfl)
        (fun _ e => nomatch e)
  · intro m g all askd hk hmd
    subst hk
    cases hnode
    exact hsrc.tv_sent_all hn hT hv1 (sgws_first_sent _ hacc hmd) (fun _ _ => Or.inl rfl) (Or.inl rfl) hsq hnsub

theorem onIqResult_sender (hw : WFConfig accts groups) {s : Sys} {a : Acct} {hd : Stanza} {rest : List Stanza} {iq : Nat}
    {got ms : List Acct} {k0 : Cont} {n : Node} {who : Option Acct}
    (hA : AInv accts groups (abs s)) (hT : TV ex accts groups s.submitted (view s)) (ha : a ∈ accts)
    (_hlen : s.submitted.length ≤ 100)
    (hq : queueOf s.outbound a = hd :: rest) (hiq : stanzaIq hd = some iq)
    (hplain : ∀ id r, downTok id hd = 0 ∧ nOf id hd = 0 ∧ rcptOut id r hd = 0 ∧ retryDownTok id r hd = 0)
    (hk0 : lookup (getClient s a).iqReg iq = some k0) (hnode : contNode k0 = some (n, who))
    (hgot : ∀ j, j ∈ asked k0 → j ∈ got) :
    TV ex accts groups s.submitted (view (onIqResult { s with outbound := insert s.outbound a rest } a iq got ms)) :=
  onIqResult_sender' hw hA hT ha hq hiq hplain hk0 hnode hgot

end

end Yow.E2E
