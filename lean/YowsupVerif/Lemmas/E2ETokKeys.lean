/-
  `processKeys` and `onIqResult` in the functional view.  When keys came for everybody asked for, `processKeys` only makes
  sessions: `Keyed c l c1` records that, and each proof reads what it needs of `c1` off it by induction.
  `onIqResult_cases` names the send that `onIqResult` resumes, for any property of the resulting state.
-/
import YowsupVerif.Lemmas.E2ETokFresh
namespace Yow.E2E

theorem createSession_same (c : Client) (j : Acct) (sid : Nat) : SameBut c (createSession c j sid) ∧
    (createSession c j sid).iqReg = c.iqReg ∧ (lookup (createSession c j sid).sessions j).isSome = true ∧
    (∀ j', (lookup c.sessions j').isSome = true → (lookup (createSession c j sid).sessions j').isSome = true) := by
  refine ⟨⟨rfl, rfl, rfl, rfl, rfl, rfl, rfl, rfl⟩, rfl, ?_, fun j' hj' => ?_⟩
  · show (lookup (insert c.sessions j _) j).isSome = true
    rw [lookup_insert, if_pos rfl]; rfl
  · exact lookup_insert_isSome _ _ _ hj'

/-- `c1` is `c` after sessions were made (`createSession`) with the accounts of `l`, one after the other -/
inductive Keyed : Client → List Acct → Client → Prop
  | nil (c : Client) : Keyed c [] c
  | cons {c c1 : Client} {j : Acct} {l : List Acct} (sid : Nat) (h : Keyed (createSession c j sid) l c1) : Keyed c (j :: l) c1

theorem Keyed.same {c c1 : Client} {l : List Acct} (h : Keyed c l c1) :
    SameBut c c1 ∧ c1.iqReg = c.iqReg ∧ (∀ j ∈ l, (lookup c1.sessions j).isSome = true) ∧
    (∀ j, (lookup c.sessions j).isSome = true → (lookup c1.sessions j).isSome = true) := by
  induction h with
  | nil c => exact ⟨SameBut.rfl' c, rfl, fun _ h => (nomatch h), fun _ h => h⟩
  | @cons c c1 j l sid _ ih =>
    obtain ⟨q1, q2, q3, q4⟩ := createSession_same c j sid
    obtain ⟨h1, h2, h3, h4⟩ := ih
    refine ⟨q1.trans h1, h2.trans q2, fun j' hj' => ?_, fun j' hj' => h4 j' (q4 j' hj')⟩
    rcases List.mem_cons.mp hj' with rfl | e
    · exact h4 _ q3
    · exact h3 j' e

/-- for any step function `f` that agrees with that of `processKeys` on returned keys, so that the induction can vary the
    accumulator -/
theorem foldKeys_keyed (r : Acct) (got : List Acct) (f : Sys × List Acct → Acct → Sys × List Acct)
    (hf : ∀ acc j, j ∈ got → f acc j =
      (setClient { acc.1 with nextSess := acc.1.nextSess + 1 } r (createSession (getClient acc.1 r) j acc.1.nextSess), acc.2 ++ [j])) :
    ∀ (l : List Acct) (acc : Sys × List Acct), r ∈ (view acc.1).accounts → (∀ j, j ∈ l → j ∈ got) →
      ∃ s1 c1, l.foldl f acc = (s1, acc.2 ++ l) ∧ view s1 = (view acc.1).cstep r c1 [] (view acc.1).nextCtr ∧
        Keyed (getClient acc.1 r) l c1 := by
  intro l
  induction l with
  | nil =>
    intro acc _ _
    exact ⟨acc.1, getClient acc.1 r, by rw [List.append_nil]; rfl, (View.cstep_id (view acc.1) r).symm, .nil _⟩
  | cons j l ih =>
    intro acc hacc hl
    rw [List.foldl_cons, hf acc j (hl j List.mem_cons_self)]
    have hv : view (setClient { acc.1 with nextSess := acc.1.nextSess + 1 } r (createSession (getClient acc.1 r) j acc.1.nextSess))
        = (view acc.1).cstep r (createSession (getClient acc.1 r) j acc.1.nextSess) [] (view acc.1).nextCtr :=
      view_setClient { acc.1 with nextSess := acc.1.nextSess + 1 } r _ hacc
    obtain ⟨s1, c1, h1, h2, h3⟩ := ih
      (setClient { acc.1 with nextSess := acc.1.nextSess + 1 } r (createSession (getClient acc.1 r) j acc.1.nextSess), acc.2 ++ [j])
      (by rw [hv]; exact hacc) (fun j' hj' => hl j' (List.mem_cons_of_mem _ hj'))
    have hgc : getClient (setClient { acc.1 with nextSess := acc.1.nextSess + 1 } r (createSession (getClient acc.1 r) j acc.1.nextSess)) r
        = createSession (getClient acc.1 r) j acc.1.nextSess :=
      (congrFun (congrArg View.cl hv) r).trans (View.cstep_cl_same _ _ _ _ _)
    rw [hgc] at h3
    refine ⟨s1, c1, by rw [h1, List.append_assoc]; rfl, ?_, .cons _ h3⟩
    rw [h2, hv, View.cstep_cstep]
    rfl

theorem processKeys_keyed (r : Acct) (got asked : List Acct) (s : Sys) (hr : r ∈ (view s).accounts)
    (hg : ∀ j, j ∈ asked → j ∈ got) :
    ∃ s1 c1, processKeys s r asked got = (s1, asked) ∧ view s1 = (view s).cstep r c1 [] (view s).nextCtr ∧
      Keyed (getClient s r) asked c1 :=
  foldKeys_keyed r got _ (fun _ _ hj => if_pos (List.contains_iff_mem.mpr hj)) asked (s, []) hr hg

theorem processKeys_spec (r : Acct) (got : List Acct) (asked : List Acct) : ∀ (s : Sys), r ∈ (view s).accounts →
    (∀ j, j ∈ asked → j ∈ got) →
    ∃ c1, view (processKeys s r asked got).1 = (view s).cstep r c1 [] (view s).nextCtr ∧
      SameBut (getClient s r) c1 ∧ c1.iqReg = (getClient s r).iqReg ∧
      (∀ j, j ∈ asked → (lookup c1.sessions j).isSome = true) ∧
      (∀ j, (lookup (getClient s r).sessions j).isSome = true → (lookup c1.sessions j).isSome = true) ∧
      (processKeys s r asked got).2 = asked := by
  intro s hr hg
  obtain ⟨s1, c1, hpk, hv, hk⟩ := processKeys_keyed r got asked s hr hg
  rw [hpk]
  exact ⟨c1, hv, hk.same.1, hk.same.2.1, hk.same.2.2.1, hk.same.2.2.2, rfl⟩

/-- `s1`: the state after the continuation was taken out of the registry and sessions were made -/
theorem onIqResult_cases {P : Sys → Prop} {s : Sys} {r : Acct} {iq : Nat} {got ms : List Acct} {k : Cont} {s1 : Sys}
    (hk : lookup (getClient s r).iqReg iq = some k)
    (hs1 : processKeys (setClient s r { getClient s r with iqReg := erase (getClient s r).iqReg iq }) r (asked k) got
      = (s1, asked k))
    (hshape : ContShape k) (hpend : ∀ p q, k ≠ .keysForPending p q)
    (hsend : ∀ n b, k = .keysForSend n → n.dest = .user b → P (sendToContact s1 r (getClient s1 r) n b))
    (hretry : ∀ n w cnt, k = .keysForRetry n w cnt → P (processPlaintext s1 r (getClient s1 r) n (some (w, cnt))))
    (hinfo : ∀ n g, k = .groupInfo n → n.dest = .group g →
      P (ensureSessionsAndSend s1 r (getClient s1 r) n g (ms.filter (· != r))))
    (hgroup : ∀ n g all askd, k = .keysForGroup n all askd → n.dest = .group g →
      P (sendToGroupWithSessions s1 r (getClient s1 r) n g all 0)) :
    P (onIqResult s r iq got ms) := by
  unfold onIqResult
  simp only [hk]
  cases k with
  | keysForPending p q => exact absurd rfl (hpend p q)
  | keysForSend n =>
    cases hd : n.dest with
    | group g => rw [ContShape, hd] at hshape; cases hshape
    | user b =>
      simp only [asked, hd] at hs1
      simp only [hd, hs1, List.length_singleton, if_true]
      exact hsend n b rfl hd
  | keysForRetry n w cnt =>
    simp only [asked] at hs1
    simp only [hs1, List.length_singleton, if_true]
    exact hretry n w cnt rfl
  | groupInfo n =>
    cases hd : n.dest with
    | user b => rw [ContShape, hd] at hshape; cases hshape
    | group g =>
      cases hs1
      simp only [hd]
      exact hinfo n g rfl hd
  | keysForGroup n all askd =>
    cases hd : n.dest with
    | user b => rw [ContShape, hd] at hshape; cases hshape
    | group g =>
      simp only [asked] at hs1
      have hneed : all.filter (fun j => askd.contains j || !askd.contains j) = all :=
        List.filter_eq_self.mpr (fun j _ => by cases askd.contains j <;> rfl)
      simp only [hd, hs1, hneed]
      exact hgroup n g all askd rfl hd

section
variable {ex : Bool} {accts : List Acct} {groups : List (Nat × List Acct)}

theorem pop_only {s : Sys} {a : Acct} {hd : Stanza} {rest : List Stanza} (hn : accts.Nodup)
    (hT : TV ex accts groups s.submitted (view s)) (ha : a ∈ accts)
    (hq : queueOf s.outbound a = hd :: rest)
    (hz : ∀ id r, downTok id hd = 0 ∧ retryDownTok id r hd = 0 ∧ rcptOut id r hd = 0 ∧ nOf id hd = 0)
    (hiq : ∀ e ∈ (getClient s a).iqReg, stanzaIq hd ≠ some e.1) :
    TV ex accts groups s.submitted ((view s).popOut a rest) := by
  have hrs : RecipStep accts groups s.submitted (view s) a [hd] rest (getClient s a) [] (view s).nextCtr := {
    hx := ha
    hq := hq
    hk := Nat.le_refl _
    sentQ := rfl
    receipts := rfl
    ownSK := rfl
    contS_eq := fun _ _ => rfl
    slot_eq := fun _ => rfl
    first_keep := fun e he _ _ => he
    iq_new := fun e he => Or.inl he
    cons_plain := List.forall_mem_singleton.mpr (fun id r => ⟨(hz id r).2.1, (hz id r).2.2.1⟩)
    out_plain := fun st hst => by cases hst
    shown_mono := fun _ => Nat.le_refl _
    good_c := hT.clients a
    good_out := fun st hst => by cases hst
    cons_R := by
      intro a' n' _ _
      simp only [sumMap_cons, sumMap_nil', (hz n'.id 0).1, view_cl]
      omega
    rcons_R := by
      intro a' n' _ _
      simp only [sumMap_nil']
      show 0 + shownC (getClient s a) n'.id = _
      omega
    ans_iq := fun e he => Or.inl ⟨he, List.forall_mem_singleton.mpr (hiq e he)⟩
    ans_pend := (hT.ans a).2
    kept_R := by
      intro a' n' _ _
      simp only [sumMap_cons, sumMap_nil', (hz n'.id 0).1]
      show pendS n'.id (getClient s a).pendingIn + 0 ≤ 0 + 0 + pendS n'.id (getClient s a).pendingIn
      omega
    unop_pend := by
      intro m
      show pendN m (getClient s a).pendingIn ≤ _ + pendN m (getClient s a).pendingIn
      omega
    unop_seen := fun m hm => Or.inl hm }
  have := TV.client_step hn hT (hrs.toCStepOK hT)
  have e : ((view s).popOut a rest).cstep a (getClient s a) [] (view s).nextCtr = (view s).popOut a rest :=
    View.cstep_id ((view s).popOut a rest) a
  rw [e] at this
  exact this

end

end Yow.E2E
