/-
  The two queue tables of the E2E system model keep pairwise distinct keys: `QKeys` reads only `inbound` and `outbound`,
  and every update of those goes through `insert` (directly in `step`, or by `emit` / `push`, which is all a client
  operation or the server does to them: `ClientOp`, `Pushes`).
-/
import YowsupVerif.Lemmas.E2ETokQuiesce
import YowsupVerif.Lemmas.E2EOps
namespace Yow.E2E

/-- both queue tables have pairwise distinct keys -/
def QKeys (s : Sys) : Prop := (s.inbound.map Prod.fst).Nodup ∧ (s.outbound.map Prod.fst).Nodup

theorem QKeys.of_eq {s : Sys} (h : QKeys s) {s' : Sys} (h1 : s'.inbound = s.inbound) (h2 : s'.outbound = s.outbound) : QKeys s' := by
  unfold QKeys; rw [h1, h2]; exact h

theorem QKeys.setIn {s : Sys} (h : QKeys s) (a : Acct) (l : List Stanza) : QKeys { s with inbound := insert s.inbound a l } :=
  ⟨keysNodup_insert _ _ h.1, h.2⟩

theorem QKeys.setOut {s : Sys} (h : QKeys s) (a : Acct) (l : List Stanza) : QKeys { s with outbound := insert s.outbound a l } :=
  ⟨h.1, keysNodup_insert _ _ h.2⟩

theorem QKeys.emit {s : Sys} (h : QKeys s) (a : Acct) (st : Stanza) : QKeys (emit s a st) := (h.setIn a _).of_eq rfl rfl

theorem QKeys.push {s : Sys} (h : QKeys s) (a : Acct) (st : Stanza) : QKeys (push s a st) := h.setOut a _

theorem QKeys.setClient {s : Sys} (h : QKeys s) (a : Acct) (c : Client) : QKeys (setClient s a c) := h.of_eq rfl rfl

theorem QKeys.of_op {a : Acct} {s s' : Sys} (o : ClientOp (fun _ _ => True) (fun _ => True) a s s') : QKeys s → QKeys s' := by
  induction o with
  | refl => exact id
  | set _ => exact fun h => h.setClient _ _
  | emit _ => exact fun h => h.emit _ _
  | ctrs => exact fun h => h.of_eq rfl rfl
  | trans _ _ h1 h2 => exact fun h => h2 (h1 h)

theorem QKeys.sendIq {s : Sys} (h : QKeys s) (a : Acct) (c : Client) (mk : Nat → Stanza) (k : Cont) : QKeys (sendIq s a c mk k) :=
  .of_op (sendIq_op (fun _ _ => trivial) trivial) h

theorem QKeys.sendToContact {s : Sys} (h : QKeys s) (a : Acct) (c : Client) (n : Node) (peer : Acct) :
    QKeys (sendToContact s a c n peer) :=
  .of_op (sendToContact_op (fun _ _ => trivial) fun _ _ => trivial) h

theorem QKeys.sendToGroup {s : Sys} (h : QKeys s) (a : Acct) (c : Client) (n : Node) (g : Nat) (retry : Option (Acct × Nat)) :
    QKeys (sendToGroup s a c n g retry) :=
  .of_op (sendToGroup_op (fun _ _ => trivial) fun _ _ => trivial) h

theorem QKeys.of_pushes {s s' : Sys} (o : Pushes (fun _ => True) s s') : QKeys s → QKeys s' := by
  induction o with
  | refl => exact id
  | push s a _ => exact fun h => h.push a _
  | trans _ _ h1 h2 => exact fun h => h2 (h1 h)

theorem QKeys.step {s : Sys} (h : QKeys s) (act : Act) : QKeys (step s act) := by
  cases act with
  | appSend a n =>
    exact .of_op (sendLayerSend_op (fun _ _ _ => trivial) fun _ _ => trivial)
      (h.of_eq (s' := { s with submitted := s.submitted ++ [(a, n)] }) rfl rfl)
  | process a =>
    show QKeys (match queueOf s.inbound a with
      | [] => s
      | st :: rest => Yow.E2E.serverProcess { s with inbound := insert s.inbound a rest } a st)
    split
    · exact h
    · exact .of_pushes (serverProcess_pushes _ _ (fun _ _ => trivial) fun _ _ => trivial) (h.setIn _ _)
  | deliver a f =>
    unfold Yow.E2E.step
    dsimp only
    split
    · exact h
    · have recv := fun s r st => QKeys.of_op (clientReceive_op (s := s) (r := r) (fun _ _ _ => trivial) (fun _ => trivial) st)
      split
      · exact recv _ _ _ (h.of_eq rfl rfl)
      · exact recv _ _ _ ((h.setOut _ _).of_eq rfl rfl)
      · exact recv _ _ _ (h.setOut _ _)
  | restart a => exact h.setClient _ _

theorem QKeys.run (acts : List Act) : ∀ s : Sys, QKeys s → QKeys (run s acts) := by
  induction acts with
  | nil => exact fun s h => h
  | cons act acts ih => exact fun s h => ih _ (h.step act)

theorem QKeys.init (accts : List Acct) (groups : List (Nat × List Acct)) : QKeys (initSys accts groups) :=
  ⟨List.nodup_nil, List.nodup_nil⟩

end Yow.E2E
