/-
  The consequences of the token invariant at quiescence, and enabledness of the server when some queue is not empty.
-/
import YowsupVerif.Lemmas.E2ETokBase
namespace Yow.E2E

theorem quiescent_queues {s : Sys} (hq : quiescent s = true) (a : Acct) :
    queueOf s.inbound a = [] ∧ queueOf s.outbound a = [] := by
  unfold quiescent at hq
  rw [Bool.and_eq_true] at hq
  exact ⟨queueOf_nil_of_all hq.1 a, queueOf_nil_of_all hq.2 a⟩

theorem quiescent_settled' (s : Sys) (hi : answerable s = true) (hq : quiescent s = true) : settled s = true := by
  unfold settled
  rw [hq, Bool.true_and, List.all_eq_true]
  intro p hp
  unfold answerable at hi
  have := List.all_eq_true.mp hi p hp
  -- with empty queues no continuation can be answered, so none is registered, so nothing can be parked either
  simp only [quiescent_queues hq, List.append_nil, List.any_nil, Bool.and_eq_true, List.all_eq_true, Bool.false_eq_true] at this
  have e1 : p.2.iqReg = [] := List.eq_nil_iff_forall_not_mem.mpr this.1
  have e2 : p.2.pendingIn = [] := List.eq_nil_iff_forall_not_mem.mpr (fun e he => by
    have := this.2 e he
    rw [e1] at this
    cases this)
  rw [e1, e2]
  rfl

theorem settled_client {s : Sys} (hs : settled s = true) (a : Acct) :
    (getClient s a).iqReg = [] ∧ (getClient s a).pendingIn = [] := by
  unfold settled at hs
  rw [Bool.and_eq_true, List.all_eq_true] at hs
  unfold getClient
  cases hl : lookup s.clients a with
  | none => exact ⟨rfl, rfl⟩
  | some c => simpa using hs.2 _ (lookup_mem hl)

theorem sumMap_nil {α} (f : α → Nat) : sumMap f [] = 0 := rfl

theorem settled_exactly_once' (s : Sys) (hc : conserved s = true) (hr : receiptsConserved s = true) (hs : settled s = true) :
    ∀ a n, (a, n) ∈ s.submitted → ∀ r, r ∈ intended s a n →
      shownCount s r n.id = 1 ∧
      ((getClient s a).receipts.filter (fun e =>
        e.1 == n.id && e.2.2.2 == RType.delivery && (e.2.2.1 == some r || (e.2.2.1.isNone && e.2.1 == Dest.user r)))).length = 1 := by
  intro a n hn r hrr
  have hq : quiescent s = true := by
    unfold settled at hs; rw [Bool.and_eq_true] at hs; exact hs.1
  have hqa := quiescent_queues hq a
  have hqr := quiescent_queues hq r
  unfold conserved at hc
  have h2 := List.all_eq_true.mp (List.all_eq_true.mp hc (a, n) hn) r hrr
  -- all summands of `tokens` but the showings vanish
  simp only [tokens, hqa, hqr, (settled_client hs a).1, (settled_client hs r).2, sumMap_nil, Nat.zero_add, beq_iff_eq] at h2
  have hsc : shownCount s r n.id = 1 := h2
  refine ⟨hsc, ?_⟩
  unfold receiptsConserved at hr
  have h4 := List.all_eq_true.mp (List.all_eq_true.mp hr (a, n) hn) r hrr
  simp only [receiptTokens, hqa, hqr, sumMap_nil, Nat.zero_add, beq_iff_eq] at h4
  rw [hsc] at h4
  exact h4

theorem not_quiescent_enabled' (s : Sys) (hk : (s.inbound.map Prod.fst).Nodup ∧ (s.outbound.map Prod.fst).Nodup)
    (h : quiescent s = false) :
    ∃ a, Allowed s (.process a) = true ∨ Allowed s (.deliver a .none) = true := by
  unfold quiescent at h
  rw [Bool.and_eq_false_iff, List.all_eq_false, List.all_eq_false] at h
  -- a non-empty queue is found under its key because the key occurs once
  rcases h with ⟨p, hp, hne⟩ | ⟨p, hp, hne⟩
  · refine ⟨p.1, Or.inl ?_⟩
    simp only [Allowed, queueOf, lookup_of_mem hk.1 hp, Option.getD_some]
    simpa using hne
  · refine ⟨p.1, Or.inr ?_⟩
    simp only [Allowed, queueOf, lookup_of_mem hk.2 hp, Option.getD_some]
    cases hq : p.2 with
    | nil => rw [hq] at hne; cases hne rfl
    | cons st rest => rfl

end Yow.E2E
