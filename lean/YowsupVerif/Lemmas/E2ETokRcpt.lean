/-
  A receipt arrives at the sender of the message (`AxolotlSendLayer.receive`).  A retry request is the token of its
  recipient: the client takes it in hand (`Src.ofRetry`) and asks for keys.  A delivery receipt is entered in the list of
  receipts.  In both cases a 1:1 node leaves the sent queue and everything else stays in it.
-/
import YowsupVerif.Lemmas.E2ETokIq
namespace Yow.E2E

theorem sentS_filter (i id : Nat) (l : List Node) :
    sentS i (l.filter (fun m => m.id != id)) = if i = id then 0 else sentS i l := by
  unfold sentS
  induction l with
  | nil => simp
  | cons m l ih =>
    rw [List.filter_cons]
    by_cases hm : m.id = id
    · simp only [hm, bne_self_eq_false, Bool.false_eq_true, if_false, ih, sumMap_cons]
      by_cases hi : i = id
      · simp [hi]
      · have : ¬ id = i := fun e => hi e.symm
        simp [hi, this]
    · have : (m.id != id) = true := by simp [hm]
      simp only [this, if_true, sumMap_cons, ih]
      by_cases hi : i = id
      · subst hi; simp [hm]
      · simp [hi]

theorem recShape_ident {n : Node} {peer : Dest} {part : Option Acct} (h : RecShape n peer part) (r : Acct) :
    (part = some r ∨ (part = none ∧ peer = .user r)) ↔ whoOf peer part = r := by
  unfold RecShape at h
  split at h
  · obtain ⟨rfl, rfl⟩ := h
    simp [whoOf]
  · obtain ⟨rfl, hp⟩ := h
    cases part with
    | none => simp at hp
    | some p => simp [whoOf]

theorem recShape_part {n : Node} {peer : Dest} {part : Option Acct} (h : RecShape n peer part) :
    part.isSome = isGroupDest n.dest := by
  unfold RecShape at h
  split at h
  · next b hb => obtain ⟨rfl, rfl⟩ := h; rw [hb]; rfl
  · next g hg => obtain ⟨rfl, hp⟩ := h; rw [hg, hp]; rfl

theorem rcptOut_of_shape {n : Node} {peer : Dest} {part : Option Acct} (h : RecShape n peer part) (id id' : Nat) (r : Acct) :
    rcptOut id' r (.receipt id peer part .delivery) = if id = id' ∧ whoOf peer part = r then 1 else 0 := by
  unfold RecShape at h
  split at h
  · obtain ⟨rfl, rfl⟩ := h
    rfl
  · obtain ⟨rfl, hp⟩ := h
    cases part with
    | none => simp at hp
    | some p => rfl

theorem retryDownTok_of_shape {n : Node} {peer : Dest} {part : Option Acct} (h : RecShape n peer part) (id id' cnt : Nat) (r : Acct) :
    retryDownTok id' r (.receipt id peer part (.retry cnt)) = if id = id' ∧ whoOf peer part = r then 1 else 0 := by
  have := recShape_ident h r
  simp only [retryDownTok]
  by_cases h1 : id = id' <;> by_cases h2 : whoOf peer part = r
  · rw [if_pos ⟨h1, this.mpr h2⟩, if_pos ⟨h1, h2⟩]
  · rw [if_neg (fun hh => h2 (this.mp hh.2)), if_neg (fun hh => h2 hh.2)]
  · rw [if_neg (fun hh => h1 hh.1), if_neg (fun hh => h1 hh.1)]
  · rw [if_neg (fun hh => h1 hh.1), if_neg (fun hh => h1 hh.1)]

theorem rcptOut_retry (id id' cnt : Nat) (r : Acct) (peer : Dest) (part : Option Acct) :
    rcptOut id r (.receipt id' peer part (.retry cnt)) = 0 := by
  cases peer <;> cases part <;> rfl

theorem handTok_some (n : Node) (w : Acct) (id : Nat) (r : Acct) :
    handTok n (some w) id r = if n.id = id ∧ w = r then 1 else 0 := by
  simp [handTok]

theorem rcptGot_entry {c c' : Client} {n : Node} {id : Nat} {peer : Dest} {part : Option Acct}
    (h : c'.receipts = c.receipts ++ [(id, peer, part, .delivery)]) (hrs : RecShape n peer part) (id' : Nat) (r : Acct) :
    rcptGot c' id' r = rcptGot c id' r + if id = id' ∧ whoOf peer part = r then 1 else 0 := by
  have htest : ((id == id' && RType.delivery == RType.delivery && (part == some r || (part.isNone && peer == Dest.user r))) = true) ↔
      (id = id' ∧ whoOf peer part = r) := by
    rw [← recShape_ident hrs r]
    simp
  unfold rcptGot
  rw [h, List.filter_append, List.length_append, List.filter_cons, List.filter_nil]
  by_cases hc : id = id' ∧ whoOf peer part = r
  · rw [if_pos hc, if_pos (htest.mpr hc)]; rfl
  · rw [if_neg hc, if_neg (fun hh => hc (htest.mp hh))]; rfl

section
variable {ex : Bool} {accts : List Acct} {groups : List (Nat × List Acct)}

theorem receipt_facts {s : Sys} {a : Acct} {rest : List Stanza} {id : Nat} {peer : Dest} {part : Option Acct} {t : RType}
    (hA : AInv accts groups (abs s)) (hT : TV ex accts groups s.submitted (view s))
    (hq : queueOf s.outbound a = .receipt id peer part t :: rest) :
    a ∈ accts ∧ ∃ n, (a, n) ∈ s.submitted ∧ n.id = id ∧ RecShape n peer part ∧ whoOf peer part ∈ intendedG groups a n ∧
      (t = .delivery → 1 ≤ shownC (getClient s (whoOf peer part)) id) ∧ (∀ cnt, t = .retry cnt → 1 ≤ cnt) := by
  have hmem : Stanza.receipt id peer part t ∈ (abs s).outb a := by
    show _ ∈ queueOf s.outbound a; rw [hq]; simp
  obtain ⟨ha, ⟨n', hn1, hn2, hn3⟩, _⟩ := hA.outb_ok a _ hmem
  obtain ⟨⟨n, h1, h2, h3⟩, h4, h5⟩ := (hT.downs a _ hmem).rcpt id peer part t rfl
  have : n' = n := (sub_unique hA hn1 h1 (hn2.trans h2.symm)).2
  subst this
  exact ⟨ha, n', h1, h2, h3, hn3, h4, h5⟩

theorem dropSent_eq (c : Client) (part : Option Acct) (id : Nat) :
    (if part.isSome = true then c else { c with sentQueue := c.sentQueue.filter (fun m => m.id != id) }) =
      { c with sentQueue := if part.isSome = true then c.sentQueue else c.sentQueue.filter (fun m => m.id != id) } := by
  cases part <;> rfl

theorem sentQueue_keep {s : Sys} {a : Acct} {n : Node} {id : Nat} {part : Option Acct} {q : List Node}
    (hA : AInv accts groups (abs s)) (hn1 : (a, n) ∈ s.submitted) (hn2 : n.id = id) (hgrp : part.isSome = isGroupDest n.dest)
    (hsq : q = (getClient s a).sentQueue ∨ (part = none ∧ q = (getClient s a).sentQueue.filter (fun m => m.id != id)))
    {n' : Node} (hn' : (a, n') ∈ s.submitted) (hin : n' ∈ (getClient s a).sentQueue) :
    n' ∈ q ∨ (n' = n ∧ isGroupDest n.dest = false) := by
  rcases hsq with h1 | ⟨h1, h2⟩
  · left; rw [h1]; exact hin
  · by_cases hid : n'.id = id
    · right
      refine ⟨(sub_unique hA hn' hn1 (hid.trans hn2.symm)).2, ?_⟩
      rw [← hgrp, h1]; rfl
    · left
      rw [h2]
      exact List.mem_filter.mpr ⟨hin, by simpa using hid⟩

theorem retq_keep {s : Sys} {a : Acct} {n : Node} {id : Nat} {part : Option Acct} {q : List Node}
    (hA : AInv accts groups (abs s)) (hT : TV ex accts groups s.submitted (view s)) (hn1 : (a, n) ∈ s.submitted) (hn2 : n.id = id)
    (hgrp : part.isSome = isGroupDest n.dest)
    (hsq : q = (getClient s a).sentQueue ∨ (part = none ∧ q = (getClient s a).sentQueue.filter (fun m => m.id != id)))
    (e : Nat × Cont) (he : e ∈ (getClient s a).iqReg) (n' : Node) (w : Acct) (c : Nat) (hc : e.2 = Cont.keysForRetry n' w c)
    (hg : isGroupDest n'.dest = true) : n' ∈ q ∨ 100 < (view s).submitted.length := by
  rcases hT.retq a e he n' w c hc hg with h1 | h1
  · have hn'sub : (a, n') ∈ s.submitted := by
      have := (hA.client a).conts e.1 e.2 he
      rw [hc] at this
      exact this.1
    rcases sentQueue_keep hA hn1 hn2 hgrp hsq hn'sub h1 with h2 | ⟨rfl, hug⟩
    · exact Or.inl h2
    · rw [hug] at hg
      cases hg
  · exact Or.inr h1

theorem dropSent_cases {l q : List Node} {part : Option Acct} {id : Nat}
    (hsq : q = if part.isSome = true then l else l.filter (fun m => m.id != id)) :
    q = l ∨ (part = none ∧ q = l.filter (fun m => m.id != id)) := by
  cases part with
  | none => exact Or.inr ⟨rfl, hsq⟩
  | some p => exact Or.inl hsq

/-- `q`: the sent queue after the lookup of the node there -/
theorem Src.ofRetry {s : Sys} {a : Acct} {rest : List Stanza} {id : Nat} {peer : Dest} {part : Option Acct} {cnt : Nat}
    {n : Node} {q : List Node} (hA : AInv accts groups (abs s)) (hT : TV ex accts groups s.submitted (view s))
    (hlen : s.submitted.length ≤ 100) (hq : queueOf s.outbound a = .receipt id peer part (.retry cnt) :: rest)
    (ha : a ∈ accts) (hn1 : (a, n) ∈ s.submitted) (hn2 : n.id = id) (hrs : RecShape n peer part)
    (hwint : whoOf peer part ∈ intendedG groups a n)
    (hsq : q = if part.isSome = true then (getClient s a).sentQueue
      else (getClient s a).sentQueue.filter (fun m => m.id != id)) :
    n ∈ (getClient s a).sentQueue ∧
      Src accts groups s.submitted (view s) a [.receipt id peer part (.retry cnt)] rest
        { getClient s a with sentQueue := q } n (some (whoOf peer part)) := by
  have nolost : ¬ 100 < (view s).submitted.length := by
    show ¬ 100 < s.submitted.length
    omega
  have hkeptm : ∀ n', (a, n') ∈ s.submitted → ∀ r, r ∈ intendedG groups a n' →
      inTransitV (view s) a n'.id r = 0 ∨ n' ∈ (getClient s a).sentQueue := by
    intro n' hn' r hr
    rcases hT.kept a n' hn' r hr with h1 | h1 | h1
    · exact Or.inl h1
    · exact Or.inr h1
    · exact absurd h1 nolost
  have hhead : Stanza.receipt id peer part (.retry cnt) ∈ (view s).outb a := by
    show _ ∈ queueOf s.outbound a; rw [hq]; exact List.mem_cons_self
  -- the retry request at the head is the one token of its recipient that is in transit
  have hrd : retryDownTok n.id (whoOf peer part) (.receipt id peer part (.retry cnt)) = 1 := by
    simp only [retryDownTok, hn2, true_and]
    rw [if_pos ((recShape_ident hrs _).mpr rfl)]
  have hit : inTransitV (view s) a n.id (whoOf peer part) = 1 := by
    have h1 := hT.cons a n hn1 _ hwint
    rw [tokensV_eq] at h1
    have h2 : 1 ≤ inTransitV (view s) a n.id (whoOf peer part) := by
      rw [← hrd]
      exact Nat.le_trans (sumMap_le_of_mem (f := retryDownTok n.id (whoOf peer part)) hhead) (Nat.le_add_left _ _)
    omega
  have hinq : n ∈ (getClient s a).sentQueue := by
    rcases hkeptm n hn1 _ hwint with h1 | h1
    · omega
    · exact h1
  have hgrp : part.isSome = isGroupDest n.dest := recShape_part hrs
  have hkeep := fun n' => sentQueue_keep (n' := n') hA hn1 hn2 hgrp (dropSent_cases hsq)
  refine ⟨hinq, ?_⟩
  exact {
    hx := ha
    hq := hq
    uniq := fun n' hn' e => (sub_unique hA hn' hn1 e).2
    pend := rfl
    shown := rfl
    seen := rfl
    seenSK := rfl
    receipts := rfl
    ownSK := rfl
    cons_plain := List.forall_mem_singleton.mpr (fun _ _ => ⟨rfl, rfl, rcptOut_retry ..⟩)
    conts := (hT.clients a).conts
    iqKeys := (hT.clients a).iqKeys
    iq_lt := fun e he => (hA.client a).iq_lt e.1 e.2 he
    tok := by
      intro n' hn' r hr
      show contS n'.id r (getClient s a).iqReg + _ = _
      simp only [sumMap_cons, sumMap_nil', Nat.add_zero, handTok_some, retryDownTok_of_shape hrs, hn2]
      rfl
    slot := by
      intro i
      have h1 : slotS i (getClient s a).iqReg + sentS i (getClient s a).sentQueue ≤ 1 := hT.slots a i
      show slotS i (getClient s a).iqReg + sentS i q + (if n.id = i ∧ (_ ∨ isGroupDest n.dest = false) then 1 else 0) ≤ 1
      rw [hsq, ← hgrp]
      cases part with
      | some p =>
        rw [if_pos (show (some p).isSome = true from rfl), if_neg (fun h => h.2.elim (fun e => nomatch e) (fun e => nomatch e))]
        exact h1
      | none =>
        -- a 1:1 node leaves the queue: its slot is free for the token in hand
        rw [if_neg (show ¬ (none : Option Acct).isSome = true from fun e => nomatch e), sentS_filter]
        by_cases hi : i = id
        · subst hi
          have h2 : 1 ≤ sentS i (getClient s a).sentQueue := by
            have := sumMap_le_of_mem (f := fun (x : Node) => if x.id = i then 1 else 0) hinq
            rw [if_pos hn2] at this
            exact this
          rw [if_pos rfl, if_pos ⟨hn2, Or.inr rfl⟩]
          omega
        · rw [if_neg hi, if_neg (fun h => hi (h.1.symm.trans hn2))]
          exact h1
    iq_sub := fun e he => ⟨he, List.forall_mem_singleton.mpr (fun h => nomatch h)⟩
    pend_ok := (hT.ans a).2
    kept := by
      intro n' hn' r hr
      simp only [sumMap_cons, sumMap_nil', Nat.add_zero]
      by_cases hh : n'.id = id ∧ whoOf peer part = r
      · obtain ⟨h1, h2⟩ := hh
        have : n' = n := (sub_unique hA hn' hn1 (h1.trans hn2.symm)).2
        subst this; subst h2
        left; rw [hit, hrd]
      · have hz : retryDownTok n'.id r (.receipt id peer part (.retry cnt)) = 0 := by
          simp only [retryDownTok]
          rw [if_neg]
          intro h
          exact hh ⟨h.1.symm, (recShape_ident hrs r).mp h.2⟩
        rw [hz]
        rcases hkeptm n' hn' r hr with h1 | h1
        · exact Or.inl h1
        · rcases hkeep n' hn' h1 with h2 | ⟨rfl, hug⟩
          · exact Or.inr (Or.inl h2)
          · exact absurd ⟨hn2, intendedG_single hug hwint hr⟩ hh
    kept_hand := by
      intro _ r hr hh
      simp only [sumMap_cons, sumMap_nil', Nat.add_zero]
      obtain rfl : whoOf peer part = r := by
        rw [handTok_some] at hh
        exact Classical.byContradiction fun hne => by rw [if_neg (fun h => hne h.2)] at hh; cases hh
      rw [hit, hrd]
    ret3 := by
      intro n' hn' g hg
      rcases hT.ret3 a n' hn' g hg with h1 | h1
      · exact Or.inl h1
      · exact Or.inr (Or.inl h1)
    retq := retq_keep hA hT hn1 hn2 hgrp (dropSent_cases hsq) }

theorem onReceipt_retry_TV (hw : WFConfig accts groups) {s : Sys} {a : Acct} {rest : List Stanza} {id : Nat} {peer : Dest}
    {part : Option Acct} {cnt : Nat}
    (hA : AInv accts groups (abs s)) (hT : TV ex accts groups s.submitted (view s))
    (hlen : s.submitted.length ≤ 100)
    (hq : queueOf s.outbound a = .receipt id peer part (.retry cnt) :: rest) :
    TV ex accts groups s.submitted (view (onReceipt { s with outbound := insert s.outbound a rest } a id peer part (.retry cnt))) := by
  obtain ⟨ha, n, hn1, hn2, hrs, hwint, _, hcnt⟩ := receipt_facts hA hT hq
  obtain ⟨hinq, hsrc⟩ := Src.ofRetry hA hT hlen hq ha hn1 hn2 hrs hwint rfl
  have hcnt1 : 1 ≤ cnt := hcnt cnt rfl
  have hgrp : part.isSome = isGroupDest n.dest := recShape_part hrs
  have hacc : a ∈ (view { s with outbound := insert s.outbound a rest }).accounts := hT.mem_acc ha
  have hgc : getClient { s with outbound := insert s.outbound a rest } a = getClient s a := rfl
  unfold onReceipt
  simp only [hgc]
  cases hfind : (getClient s a).sentQueue.find? (fun m => m.id == id) with
  | none =>
    exfalso
    have := List.find?_eq_none.mp hfind n hinq
    simp [hn2] at this
  | some m =>
    have hm1 : m ∈ (getClient s a).sentQueue := List.mem_of_find?_eq_some hfind
    have hm2 : m.id = id := by simpa using List.find?_some hfind
    obtain rfl : m = n := (sub_unique hA ((hA.client a).sentQ m hm1) hn1 (hm2.trans hn2.symm)).2
    simp only
    rw [dropSent_eq]
    generalize hc1 : ({ getClient s a with sentQueue := if part.isSome = true then (getClient s a).sentQueue
      else (getClient s a).sentQueue.filter (fun m => m.id != id) } : Client) = c1 at hsrc ⊢
    have hv1 := view_popClient (s := s) hacc rest c1
    have hv2 : view (emit (setClient { s with outbound := insert s.outbound a rest } a c1) a (.ack id 1))
        = ((view s).popOut a rest).cstep a c1 [.ack id 1] (view s).nextCtr := by
      rw [view_emit, hv1, View.cstep_cstep]
      simp only [View.cstep_cl_same, View.cstep_nextCtr, List.nil_append]
    have : getClient (emit (setClient { s with outbound := insert s.outbound a rest } a c1) a (.ack id 1)) a = c1 :=
      (congrFun (congrArg View.cl hv2) a).trans (View.cstep_cl_same _ _ _ _ _)
    rw [this]
    refine hsrc.tv_asked hw.1 hT hv2 (List.forall_mem_singleton.mpr ⟨PlainUp.ack _ _, rfl⟩) (PlainUp.getKeys _ _) rfl rfl hcnt1
      (fun _ _ hg => ?_)
    · subst hc1
      show _ ∈ (if part.isSome = true then _ else _) ∨ _
      rw [if_pos (by rw [hgrp]; exact hg)]
      exact Or.inl hinq

theorem bubble_step {s : Sys} {a : Acct} {rest : List Stanza} {id : Nat} {peer : Dest} {part : Option Acct} {q : List Node}
    (hA : AInv accts groups (abs s)) (hT : TV ex accts groups s.submitted (view s))
    (hq : queueOf s.outbound a = .receipt id peer part .delivery :: rest)
    (hsq : q = (getClient s a).sentQueue ∨ (part = none ∧ q = (getClient s a).sentQueue.filter (fun m => m.id != id))) :
    SenderStep accts groups s.submitted (view s) a [.receipt id peer part .delivery] rest
      { getClient s a with sentQueue := q, receipts := (getClient s a).receipts ++ [(id, peer, part, .delivery)] } [.ack id 1]
      (view s).nextCtr := by
  obtain ⟨ha, n, hn1, hn2, hrs, hwint, hshown, _⟩ := receipt_facts hA hT hq
  have hgrp : part.isSome = isGroupDest n.dest := recShape_part hrs
  have hkeep := fun n' => sentQueue_keep (n' := n') hA hn1 hn2 hgrp hsq
  exact {
    hx := ha
    hq := hq
    hk := Nat.le_refl _
    pend := rfl
    shown := rfl
    seen := rfl
    seenSK := rfl
    cons_plain := List.forall_mem_singleton.mpr (fun _ => ⟨rfl, rfl⟩)
    out_plain := List.forall_mem_singleton.mpr (fun _ => ⟨rfl, rfl⟩)
    conts := (hT.clients a).conts
    iqKeys := (hT.clients a).iqKeys
    good_out := List.forall_mem_singleton.mpr ((PlainUp.ack _ _).1 _ _)
    cons_S := by
      intro n' _ r _
      show contS n'.id r (getClient s a).iqReg + _ = _
      simp only [sumMap_cons, sumMap_nil', Nat.add_zero, upTok_ack, retryDownTok]
      rfl
    rcons_S := by
      intro n' _ r _
      rw [rcptGot_entry (c := (view s).cl a) rfl hrs]
      simp only [sumMap_cons, sumMap_nil', Nat.add_zero, rcptOut_of_shape hrs]
    ans_iq := fun e he => Or.inl ⟨he, List.forall_mem_singleton.mpr (fun h => nomatch h)⟩
    ans_pend := (hT.ans a).2
    kept_S := by
      intro n' hn' r hr
      simp only [sumMap_cons, sumMap_nil', Nat.add_zero, upTok_ack, retryDownTok]
      rcases hT.kept a n' hn' r hr with h1 | h1
      · exact Or.inl h1
      · rcases h1 with h1 | h1
        case inr => exact Or.inr (Or.inr h1)
        rcases hkeep n' hn' h1 with h2 | ⟨h2, h3⟩
        · exact Or.inr (Or.inl h2)
        · -- a 1:1 message whose receipt arrived was shown: nothing is on its way any more
          subst h2
          left
          obtain rfl : r = whoOf peer part := intendedG_single h3 hr hwint
          have h4 := hT.cons a n' hn' _ hr
          rw [tokensV_eq] at h4
          have h5 := hshown rfl
          rw [← hn2] at h5
          have : shownC ((view s).cl (whoOf peer part)) n'.id = shownC (getClient s (whoOf peer part)) n'.id := rfl
          omega
    ret3 := hT.ret3 a
    slots := by
      intro i
      have h1 : slotS i (getClient s a).iqReg + sentS i (getClient s a).sentQueue ≤ 1 := hT.slots a i
      show slotS i (getClient s a).iqReg + sentS i q ≤ 1
      rcases hsq with h2 | ⟨_, h2⟩
      · rw [h2]; exact h1
      · rw [h2, sentS_filter]
        by_cases hi : i = id
        · rw [if_pos hi]; exact Nat.le_trans (Nat.le_add_right _ _) h1
        · rw [if_neg hi]; exact h1
    rids := List.forall_mem_append.mpr ⟨hT.rids a, List.forall_mem_singleton.mpr ⟨(a, n), hn1, hn2⟩⟩
    retq := retq_keep hA hT hn1 hn2 hgrp hsq
    unop_out := by
      intro r _ m
      simp }

theorem onReceipt_delivery_TV (hw : WFConfig accts groups) {s : Sys} {a : Acct} {rest : List Stanza} {id : Nat} {peer : Dest}
    {part : Option Acct}
    (hA : AInv accts groups (abs s)) (hT : TV ex accts groups s.submitted (view s))
    (hq : queueOf s.outbound a = .receipt id peer part .delivery :: rest) :
    TV ex accts groups s.submitted (view (onReceipt { s with outbound := insert s.outbound a rest } a id peer part .delivery)) := by
  obtain ⟨ha, _⟩ := receipt_facts hA hT hq
  have hacc : a ∈ (view { s with outbound := insert s.outbound a rest }).accounts := hT.mem_acc ha
  have hgc : getClient { s with outbound := insert s.outbound a rest } a = getClient s a := rfl
  unfold onReceipt
  simp only [hgc]
  cases hfind : (getClient s a).sentQueue.find? (fun m => m.id == id) with
  | none =>
    simp only
    have hss := bubble_step (q := (getClient s a).sentQueue) hA hT hq (Or.inl rfl)
    refine finish_sender hw.1 hT hss ?_
    rw [view_emit, view_setClient _ _ _ hacc, view_setOutbound]
    simp
    rfl
  | some m =>
    simp only
    rw [dropSent_eq]
    refine finish_sender hw.1 hT (bubble_step hA hT hq (dropSent_cases rfl)) ?_
    have hv1 := view_popClient (s := s) hacc rest { getClient s a with sentQueue :=
      if part.isSome = true then (getClient s a).sentQueue else (getClient s a).sentQueue.filter (fun m => m.id != id) }
    rw [view_emit, view_setClient _ _ _ (by rw [hv1]; exact hacc), getClient_setClient, if_pos rfl, hv1]
    simp

end

end Yow.E2E
