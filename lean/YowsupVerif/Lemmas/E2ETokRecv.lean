/-
  One message stanza at the recipient, for the token count: `heC` (E2ETokHandleEnc) shows it and acknowledges, or asks for
  it again, or parks it until the sender's keys arrive.  What is left alone comes from the walk of E2ETokHandleEncFrame,
  what is emitted from the equations of `heC`.  `Handled` is the balance between stanzas handled and receipts emitted.
-/
import YowsupVerif.Lemmas.E2ETokHandleEncFrame
namespace Yow.E2E

/-- shown and acknowledged, or asked for again -/
def OutAB (c : Client) (id : Nat) (peer : Dest) (part : Option Acct) (c' : Client) (out : List Stanza) : Prop :=
  (∃ p, c'.shown = c.shown ++ [{ id := id, peer := peer, participant := part, payload := p }] ∧ out = [.receipt id peer part .delivery]) ∨
  (∃ cnt, 1 ≤ cnt ∧ c'.shown = c.shown ∧ out = [.receipt id peer part (.retry cnt)])

theorem OutAB.of_shown {c0 c c' : Client} {id : Nat} {peer : Dest} {part : Option Acct} {out : List Stanza} (h : c.shown = c0.shown)
    (hab : OutAB c id peer part c' out) : OutAB c0 id peer part c' out := by
  unfold OutAB at *
  rwa [h] at hab

/-- parked until the sender's keys arrive -/
structure OutC (c : Client) (st : Stanza) (peer : Dest) (part : Option Acct) (sender : Acct) (c' : Client) (out : List Stanza) :
    Prop where
  iqReg : c'.iqReg = c.iqReg ++ [(c.nextIq, .keysForPending peer part)]
  nextIq : c'.nextIq = c.nextIq + 1
  pend : c'.pendingIn = insert c.pendingIn (peer, part) ((lookup c.pendingIn (peer, part)).getD [] ++ [st])
  out : out = [.getKeys c.nextIq [sender]]
  sentQ : c'.sentQueue = c.sentQueue
  receipts : c'.receipts = c.receipts
  ownSK : c'.ownSK = c.ownSK
  shown : c'.shown = c.shown
  seen : c'.seen = c.seen
  seenSK : c'.seenSK = c.seenSK
  noSession : lookup c.sessions sender = none

theorem stage2C_out (c : Client) (id : Nat) (part : Option Acct) (encs : List (Option Acct × Ct)) (st : Stanza) (g : Nat)
    (sender : Acct) {k : Ct} (hfk : firstKind encs .skmsg = some k)
    (hk : k.plain.content.isSome = true) (hnd : k.ctr ∉ c.seenSK.map Prod.snd) :
    OutAB c id (.group g) part (stage2C c st id (.group g) part sender encs).1 (stage2C c st id (.group g) part sender encs).2 := by
  obtain ⟨p, hp⟩ := Option.isSome_iff_exists.mp hk
  rcases groupDecrypt_cases c g sender k with ⟨hd2, hd1⟩ | ⟨hd1, hd2 | ⟨_, hdup⟩ | hd2⟩
  · rw [stage2C_ok hfk (Prod.ext hd1 hd2)]
    simp only [surfaceC, hp]
    exact Or.inl ⟨p, rfl, rfl⟩
  · rw [stage2C_fail hfk (Prod.ext hd1 hd2) (Or.inl rfl)]
    exact Or.inr ⟨_, Nat.le_add_left 1 _, rfl, rfl⟩
  · exact absurd (List.mem_map.mpr ⟨_, hdup, rfl⟩) hnd
  · rw [stage2C_noSession hfk (Prod.ext hd1 hd2)]
    exact Or.inr ⟨_, Nat.le_add_left 1 _, rfl, rfl⟩

theorem heC_out (c : Client) (id : Nat) (peer : Dest) (part : Option Acct) (im : Bool) (encs : List (Option Acct × Ct))
    (pl : Option Payload) (hshape : DownShape (.msg id peer part im encs pl))
    (hnd1 : ∀ ct, heFirst encs = some ct → ct.ctr ∉ c.seen.map Prod.snd)
    (hnd2 : ∀ k, firstKind encs .skmsg = some k → k.ctr ∉ c.seenSK.map Prod.snd)
    (hns : ∀ ct, heFirst encs = some ct → (decrypt c (whoOf peer part) ct).2 ≠ .noSession) :
    OutAB c id peer part (heC c id peer part im encs pl).1 (heC c id peer part im encs pl).2 := by
  cases hf : heFirst encs with
  | none =>
    rcases hshape.found with ⟨ct, hct, _⟩ | ⟨g, k, rfl, hfk, hk, _⟩
    · rw [hf] at hct; cases hct
    · rw [heC_none hf]
      exact stage2C_out c id part encs _ g _ hfk hk (hnd2 k hfk)
  | some ct =>
    rcases decrypt_cases c (whoOf peer part) ct with ⟨sess, hd2, hd1, _⟩ | ⟨hd1, hd2 | ⟨_, hdup⟩ | ⟨hd2, _⟩⟩
    · -- opened: the content is in this ciphertext, or in the sender-key ciphertext
      rw [heC_ok hf (Prod.ext hd1 hd2)]
      obtain ⟨_, hsh, _, _, hsk⟩ := storeC_fields { c with sessions := sess, seen := c.seen ++ [(ct.sess, ct.ctr)] } (whoOf peer part) ct.plain
      generalize storeC { c with sessions := sess, seen := c.seen ++ [(ct.sess, ct.ctr)] } (whoOf peer part) ct.plain = c2 at hsk hsh ⊢
      rcases hshape.found with ⟨ct', hct, hc, hfk⟩ | ⟨g, k, rfl, hfk, hk, hcn⟩
      · cases hf.symm.trans hct
        obtain ⟨p, hp⟩ := Option.isSome_iff_exists.mp hc
        rw [stage2C_plain (Or.inl hfk)]
        simp only [surfaceC, hp]
        exact Or.inl ⟨p, congrArg (· ++ _) hsh, rfl⟩
      · simp only [surfaceC, hcn ct hf, List.nil_append]
        exact (stage2C_out c2 id part encs _ g _ hfk hk (hsk ▸ hnd2 k hfk)).of_shown hsh
    · rw [heC_fail hf (Prod.ext hd1 hd2) (fun _ => Dec.noConfusion)]
      exact Or.inr ⟨_, Nat.le_add_left 1 _, rfl, rfl⟩
    · exact absurd (List.mem_map.mpr ⟨_, hdup, rfl⟩) (hnd1 ct hf)
    · exact absurd hd2 (hns ct hf)

theorem heC_frame (c : Client) (id : Nat) (peer : Dest) (part : Option Acct) (im : Bool) (encs : List (Option Acct × Ct))
    (pl : Option Payload) (hns : ∀ ct, heFirst encs = some ct → (decrypt c (whoOf peer part) ct).2 ≠ .noSession) :
    RecvSame c (heC c id peer part im encs pl).1 ∧
    (∀ e ∈ (heC c id peer part im encs pl).1.seen, e ∈ c.seen ∨ ∃ ct, heFirst encs = some ct ∧ e.2 = ct.ctr) ∧
    (∀ e ∈ (heC c id peer part im encs pl).1.seenSK, e ∈ c.seenSK ∨ ∃ k, firstKind encs .skmsg = some k ∧ e.2 = k.ctr) ∧
    ∀ j, (lookup c.sessions j).isSome = true → (lookup (heC c id peer part im encs pl).1.sessions j).isSome = true := by
  obtain ⟨hq, hsk⟩ := quiet_heC c id peer part im encs pl hns
  obtain ⟨hs, hseen, _⟩ := heC_fields c id peer part im encs pl
  rw [hs, hseen]
  have hsk' : ∀ e ∈ (heC c id peer part im encs pl).1.seenSK, e ∈ c.seenSK ∨ ∃ k, firstKind encs .skmsg = some k ∧ e.2 = k.ctr :=
    fun e he => (hsk e he).imp_right fun ⟨k, hk, hek⟩ => ⟨k, hk, hek ▸ rfl⟩
  cases hf : heFirst encs with
  | none => exact ⟨hq.same, fun e he => Or.inl he, hsk', fun j h => h⟩
  | some ct =>
    dsimp only
    rcases decrypt_cases c (whoOf peer part) ct with ⟨sess, _, hd1, hmono⟩ | ⟨hd1, _⟩
    · rw [hd1]
      refine ⟨hq.same, fun e he => ?_, hsk', hmono⟩
      rcases List.mem_append.mp he with h | h
      · exact Or.inl h
      · exact Or.inr ⟨ct, rfl, by rw [List.mem_singleton.mp h]⟩
    · rw [hd1]
      exact ⟨hq.same, fun e he => Or.inl he, hsk', fun j h => h⟩

structure Handled (c : Client) (ms : List Stanza) (c' : Client) (out : List Stanza) : Prop where
  same : RecvSame c c'
  bal : ∀ id, sumMap (downTok id) ms + shownC c id = shownC c' id + sumMap (retryUpTok id) out
  rc : ∀ id, sumMap (rcptIn id) out + shownC c id = shownC c' id
  outGood : ∀ st ∈ out, upDir st ∧ ctsOf st = [] ∧ UpShape st ∧
    (∀ id peer part, st = .receipt id peer part .delivery → 1 ≤ shownC c' id) ∧
    (∀ id peer part cnt, st = .receipt id peer part (.retry cnt) → 1 ≤ cnt)
  outPlain : ∀ st ∈ out, ∀ id r groups, upTok id r st = 0 ∧ upN groups r id st = 0
  seen : ∀ n, (n ∈ c'.seen.map Prod.snd ∨ n ∈ c'.seenSK.map Prod.snd) →
    (n ∈ c.seen.map Prod.snd ∨ n ∈ c.seenSK.map Prod.snd) ∨ 1 ≤ sumMap (nOf n) ms

theorem Handled.nil (c : Client) : Handled c [] c [] where
  same := RecvSame.rfl' c
  bal := fun _ => by simp
  rc := fun _ => by simp
  outGood := fun st hst => by cases hst
  outPlain := fun st hst => by cases hst
  seen := fun n hn => Or.inl hn

theorem Handled.trans {c c1 c2 : Client} {m1 m2 o1 o2 : List Stanza} (h1 : Handled c m1 c1 o1) (h2 : Handled c1 m2 c2 o2) :
    Handled c (m1 ++ m2) c2 (o1 ++ o2) where
  same := h1.same.trans h2.same
  bal := by
    intro id
    have := h1.bal id; have := h2.bal id
    simp only [sumMap_append]; omega
  rc := by
    intro id
    have := h1.rc id; have := h2.rc id
    simp only [sumMap_append]; omega
  outGood := by
    intro st hst
    rcases List.mem_append.mp hst with h | h
    · obtain ⟨a1, a2, a3, a4, a5⟩ := h1.outGood st h
      refine ⟨a1, a2, a3, ?_, a5⟩
      intro id peer part e
      have := a4 id peer part e
      have := h2.rc id
      omega
    · exact h2.outGood st h
  outPlain := by
    intro st hst
    rcases List.mem_append.mp hst with h | h
    · exact h1.outPlain st h
    · exact h2.outPlain st h
  seen := by
    intro n hn
    rcases h2.seen n hn with h | h
    · rcases h1.seen n h with h' | h'
      · exact Or.inl h'
      · right; simp only [sumMap_append]; omega
    · right; simp only [sumMap_append]; omega

theorem nOf_pos_of_mem {st : Stanza} {e : Option Acct × Ct} (he : e ∈ ctsOf st) : 1 ≤ nOf e.2.ctr st := by
  unfold nOf ctrsOf
  exact List.count_pos_iff.mpr (List.mem_map.mpr ⟨e, he, rfl⟩)

/-- a receipt for a message stanza weighs what the stanza weighed: as a showing acknowledged, or as a request to send again -/
theorem tok_receipt (id id' : Nat) (peer : Dest) (part : Option Acct) (im : Bool) (encs : List (Option Acct × Ct))
    (pl : Option Payload) (t : RType) :
    downTok id' (.msg id peer part im encs pl) =
      rcptIn id' (.receipt id peer part t) + retryUpTok id' (.receipt id peer part t) := by
  cases t <;> by_cases h : id = id' <;> simp [downTok, rcptIn, deliveryReceiptFrom, retryUpTok, h]

theorem shownC_push {c c' : Client} {id : Nat} {peer : Dest} {part : Option Acct} {p : Payload}
    (h : c'.shown = c.shown ++ [{ id := id, peer := peer, participant := part, payload := p }]) (id' : Nat) :
    shownC c' id' = shownC c id' + rcptIn id' (.receipt id peer part .delivery) := by
  unfold shownC rcptIn deliveryReceiptFrom
  rw [h, List.filter_append, List.length_append]
  by_cases hx : id = id' <;> simp [hx]

theorem OutAB.receipt {c c' : Client} {id : Nat} {peer : Dest} {part : Option Acct} {out : List Stanza}
    (h : OutAB c id peer part c' out) :
    ∃ t, out = [.receipt id peer part t] ∧ (∀ id', shownC c' id' = shownC c id' + rcptIn id' (.receipt id peer part t)) ∧
      ∀ cnt, t = .retry cnt → 1 ≤ cnt := by
  rcases h with ⟨p, hsh, rfl⟩ | ⟨cnt, hcnt, hsh, rfl⟩
  · exact ⟨.delivery, rfl, shownC_push hsh, fun _ e => by cases e⟩
  · exact ⟨.retry cnt, rfl, fun id' => shownC_congr hsh id', fun _ e => by cases e; exact hcnt⟩

theorem Handled.single {c c' : Client} {out : List Stanza} {id : Nat} {peer : Dest} {part : Option Acct} {im : Bool}
    {encs : List (Option Acct × Ct)} {pl : Option Payload}
    (hsame : RecvSame c c') (hab : OutAB c id peer part c' out)
    (hs1 : ∀ e ∈ c'.seen, e ∈ c.seen ∨ ∃ ct, heFirst encs = some ct ∧ e.2 = ct.ctr)
    (hs2 : ∀ e ∈ c'.seenSK, e ∈ c.seenSK ∨ ∃ k, firstKind encs .skmsg = some k ∧ e.2 = k.ctr) :
    Handled c [.msg id peer part im encs pl] c' out := by
  have hn : ∀ ct, (∃ e, e ∈ encs ∧ e.2 = ct) → 1 ≤ sumMap (nOf ct.ctr) [Stanza.msg id peer part im encs pl] :=
    fun ct ⟨e, he, hect⟩ => hect ▸ nOf_pos_of_mem (st := .msg id peer part im encs pl) he
  have hseen : ∀ n, (n ∈ c'.seen.map Prod.snd ∨ n ∈ c'.seenSK.map Prod.snd) →
      (n ∈ c.seen.map Prod.snd ∨ n ∈ c.seenSK.map Prod.snd) ∨ 1 ≤ sumMap (nOf n) [Stanza.msg id peer part im encs pl] := by
    intro n hn'
    rcases hn' with h | h
    · obtain ⟨e, he, rfl⟩ := List.mem_map.mp h
      rcases hs1 e he with h1 | ⟨ct, hct, hctr⟩
      · exact Or.inl (Or.inl (List.mem_map.mpr ⟨e, h1, rfl⟩))
      · right; rw [hctr]; exact hn ct (heFirst_mem hct)
    · obtain ⟨e, he, rfl⟩ := List.mem_map.mp h
      rcases hs2 e he with h1 | ⟨k, hk, hctr⟩
      · exact Or.inl (Or.inr (List.mem_map.mpr ⟨e, h1, rfl⟩))
      · right; rw [hctr]; exact hn k (firstKind_mem hk)
  obtain ⟨t, rfl, hsc, ht⟩ := hab.receipt
  exact {
    same := hsame
    bal := by
      intro id'
      simp only [sumMap_cons, sumMap_nil', hsc id', tok_receipt id id' peer part im encs pl t]
      omega
    rc := by
      intro id'
      simp only [sumMap_cons, sumMap_nil', hsc id']
      omega
    outGood := by
      intro st hst
      rw [List.mem_singleton] at hst; subst hst
      refine ⟨trivial, rfl, trivial, ?_, fun _ _ _ cnt e => ht cnt (Stanza.receipt.inj e).2.2.2⟩
      intro id' peer' part' e
      cases e
      rw [hsc id]
      simp [rcptIn, deliveryReceiptFrom]
    outPlain := by
      intro st hst id' r groups
      rw [List.mem_singleton] at hst; subst hst
      exact ⟨rfl, rfl⟩
    seen := hseen }

theorem heC_handled (c : Client) (id : Nat) (peer : Dest) (part : Option Acct) (im : Bool) (encs : List (Option Acct × Ct))
    (pl : Option Payload) (hshape : DownShape (.msg id peer part im encs pl))
    (hnew : ∀ e ∈ encs, ¬ (e.2.ctr ∈ c.seen.map Prod.snd ∨ e.2.ctr ∈ c.seenSK.map Prod.snd))
    (hns : ∀ ct, heFirst encs = some ct → (decrypt c (whoOf peer part) ct).2 ≠ .noSession) :
    Handled c [.msg id peer part im encs pl] (heC c id peer part im encs pl).1 (heC c id peer part im encs pl).2 ∧
      ∀ j, (lookup c.sessions j).isSome = true → (lookup (heC c id peer part im encs pl).1.sessions j).isSome = true := by
  obtain ⟨hsame, hs1, hs2, hmono⟩ := heC_frame c id peer part im encs pl hns
  have hab := heC_out c id peer part im encs pl hshape
    (by intro ct hct; obtain ⟨e, he, rfl⟩ := heFirst_mem hct; exact fun h => hnew e he (Or.inl h))
    (by intro k hk; obtain ⟨e, he, rfl⟩ := firstKind_mem hk; exact fun h => hnew e he (Or.inr h)) hns
  exact ⟨Handled.single hsame hab hs1 hs2, hmono⟩

theorem heC_parked (c : Client) (id : Nat) (peer : Dest) (part : Option Acct) (im : Bool) (encs : List (Option Acct × Ct))
    (pl : Option Payload) {ct : Ct} (hf : heFirst encs = some ct) (hd2 : (decrypt c (whoOf peer part) ct).2 = .noSession) :
    OutC c (.msg id peer part im encs pl) peer part (whoOf peer part) (heC c id peer part im encs pl).1
      (heC c id peer part im encs pl).2 := by
  obtain ⟨hd1, hno⟩ := decrypt_noSession hd2
  rw [heC_fail hf (Prod.ext hd1 hd2) (fun _ => Dec.noConfusion)]
  exact ⟨rfl, rfl, rfl, rfl, rfl, rfl, rfl, rfl, rfl, rfl, hno⟩

end Yow.E2E
