/-
  A client's step in the functional view (E2ETokBase) as a relation `RStep` that composes, so that a handler of the receive
  layer is described by walking through its calls; and the outcomes of the two symbolic decryptions, on which every
  statement about `handleEnc` rests.
-/
import YowsupVerif.Lemmas.E2ETokRcpt
namespace Yow.E2E

theorem AInv.head_out {accts : List Acct} {groups : List (Nat × List Acct)} {s : Sys} {a : Acct} {st : Stanza} {rest : List Stanza}
    (h : AInv accts groups (abs s)) (hq : queueOf s.outbound a = st :: rest) :
    a ∈ accts ∧ DownOK accts groups s.submitted a st ∧ LinkOK ((abs s).cl a) st :=
  h.outb_ok a st (by show st ∈ queueOf s.outbound a; rw [hq]; exact List.mem_cons_self)

theorem AInv.popOut {accts : List Acct} {groups : List (Nat × List Acct)} {s : Sys} {a : Acct} {st : Stanza} {rest : List Stanza}
    (h : AInv accts groups (abs s)) (hq : queueOf s.outbound a = st :: rest) :
    AInv accts groups (abs { s with outbound := insert s.outbound a rest }) := by
  rw [abs_setOutbound]
  exact h.setOutb (fun st' hst' => by show st' ∈ queueOf s.outbound a; rw [hq]; exact List.mem_cons_of_mem _ hst')

/-- `s'` is `s` after client `r` changed its record to `c'` and emitted `out` -/
def RStep (s s' : Sys) (r : Acct) (c' : Client) (out : List Stanza) : Prop :=
  view s' = (view s).cstep r c' out (view s).nextCtr

theorem RStep.cl {s s' : Sys} {r : Acct} {c' : Client} {out : List Stanza} (h : RStep s s' r c' out) : getClient s' r = c' := by
  have : (view s').cl r = c' := by rw [h]; simp
  exact this

theorem RStep.acc {s s' : Sys} {r : Acct} {c' : Client} {out : List Stanza} (h : RStep s s' r c' out) :
    (view s').accounts = (view s).accounts := by rw [h]; rfl

theorem RStep.mem {s s' : Sys} {r : Acct} {c' : Client} {out : List Stanza} (h : RStep s s' r c' out)
    (hr : r ∈ (view s).accounts) : r ∈ (view s').accounts := h.acc ▸ hr

theorem RStep.trans {s s1 s2 : Sys} {r : Acct} {c1 c2 : Client} {o1 o2 : List Stanza}
    (h1 : RStep s s1 r c1 o1) (h2 : RStep s1 s2 r c2 o2) : RStep s s2 r c2 (o1 ++ o2) := by
  unfold RStep at *
  rw [h2, h1]
  simp

theorem RStep.refl' (s : Sys) (r : Acct) : RStep s s r (getClient s r) [] := (View.cstep_id (view s) r).symm

theorem rstep_setClient {s : Sys} {r : Acct} (c : Client) (hr : r ∈ (view s).accounts) : RStep s (setClient s r c) r c [] :=
  view_setClient s r c hr

theorem rstep_emit (s : Sys) (r : Acct) (st : Stanza) : RStep s (emit s r st) r (getClient s r) [st] := view_emit s r st

theorem rstep_setClient_emit {s : Sys} {r : Acct} (hr : r ∈ (view s).accounts) (c : Client) (st : Stanza) :
    RStep s (emit (setClient s r c) r st) r c [st] := by
  have h1 := rstep_setClient (s := s) c hr
  have h2 := rstep_emit (setClient s r c) r st
  rw [h1.cl] at h2
  exact h1.trans h2

/-- what `decrypt` (`decrypt_pkmsg` / `decrypt_msg`) can return; `handleEnc` branches on exactly these -/
def DecryptOut (c : Client) (peer : Acct) (ct : Ct) (d : Client × Dec) : Prop :=
  (∃ sess, d.2 = .ok ct.plain ∧ d.1 = { c with sessions := sess, seen := c.seen ++ [(ct.sess, ct.ctr)] } ∧
    ∀ j, (lookup c.sessions j).isSome = true → (lookup sess j).isSome = true) ∨
  (d.1 = c ∧ (d.2 = .invalid ∨ (d.2 = .duplicate ∧ (ct.sess, ct.ctr) ∈ c.seen) ∨
    (d.2 = .noSession ∧ lookup c.sessions peer = none)))

theorem DecryptOut.invalid (c : Client) (peer : Acct) (ct : Ct) : DecryptOut c peer ct (c, .invalid) :=
  Or.inr ⟨rfl, Or.inl rfl⟩

theorem DecryptOut.fresh (c : Client) (peer : Acct) (ct : Ct) (se : Sess) :
    DecryptOut c peer ct (if c.seen.contains (ct.sess, ct.ctr) = true then (c, .duplicate)
      else ({ c with sessions := insert c.sessions peer se, seen := c.seen ++ [(ct.sess, ct.ctr)] }, .ok ct.plain)) := by
  split
  · next hs => exact Or.inr ⟨rfl, Or.inr (Or.inl ⟨rfl, by simpa using hs⟩)⟩
  · exact Or.inl ⟨_, rfl, rfl, fun j => lookup_insert_isSome _ _ _⟩

theorem decrypt_cases (c : Client) (peer : Acct) (ct : Ct) : DecryptOut c peer ct (decrypt c peer ct) := by
  unfold decrypt
  split
  · exact .invalid c peer ct
  · by_cases hc : ct.corrupt = true
    · rw [if_pos hc]; exact .invalid c peer ct
    · rw [if_neg hc]; exact .fresh c peer ct _
  · cases hl : lookup c.sessions peer with
    | none => exact Or.inr ⟨rfl, Or.inr (Or.inr ⟨rfl, hl⟩)⟩
    | some se =>
      dsimp only
      by_cases hc : ct.corrupt = true
      · rw [if_pos hc]; exact .invalid c peer ct
      · rw [if_neg hc]
        by_cases hs : (!(se.cur == ct.sess || se.archived.contains ct.sess)) = true
        · rw [if_pos hs]; exact .invalid c peer ct
        · rw [if_neg hs]; exact .fresh c peer ct _

theorem decrypt_noSession {c : Client} {peer : Acct} {ct : Ct} (h : (decrypt c peer ct).2 = .noSession) :
    (decrypt c peer ct).1 = c ∧ lookup c.sessions peer = none := by
  rcases decrypt_cases c peer ct with ⟨_, h', _⟩ | ⟨hd1, h' | ⟨h', _⟩ | ⟨_, hno⟩⟩
  · rw [h] at h'; cases h'
  · rw [h] at h'; cases h'
  · rw [h] at h'; cases h'
  · exact ⟨hd1, hno⟩

theorem groupDecrypt_cases (c : Client) (g : Nat) (sender : Acct) (ct : Ct) :
    ((groupDecrypt c g sender ct).2 = .ok ct.plain ∧
      (groupDecrypt c g sender ct).1 = { c with seenSK := c.seenSK ++ [(ct.sess, ct.ctr)] }) ∨
    ((groupDecrypt c g sender ct).1 = c ∧
      ((groupDecrypt c g sender ct).2 = .invalid ∨ ((groupDecrypt c g sender ct).2 = .duplicate ∧ (ct.sess, ct.ctr) ∈ c.seenSK) ∨
        (groupDecrypt c g sender ct).2 = .noSession)) := by
  unfold groupDecrypt
  split
  · exact Or.inr ⟨rfl, Or.inr (Or.inr rfl)⟩
  · split
    · exact Or.inr ⟨rfl, Or.inl rfl⟩
    · split
      · next h => exact Or.inr ⟨rfl, Or.inr (Or.inl ⟨rfl, by simpa using h⟩)⟩
      · exact Or.inl ⟨rfl, rfl⟩

end Yow.E2E
