/-
  The recipient's step as an instance of the master lemma for client steps (`RecipStep`, E2ETokFrames).  Every delivery to
  the receive layer has the same form: the record is made ready (`Prepared`: nothing to do; or the stanza is parked; or an
  answered key query and the stanzas parked for it are taken out), then some stanzas are handled (`Handled`, E2ETokRecv).
-/
import YowsupVerif.Lemmas.E2ETokRecv
namespace Yow.E2E

section
variable {ex : Bool} {accts : List Acct} {groups : List (Nat × List Acct)} {L : List (Acct × Node)} {V : View} {x : Acct}

theorem nonce_lt_of_pos {k n : Nat} {ms : List Stanza} (hc : ∀ st ∈ ms, ∀ e ∈ ctsOf st, e.2.ctr < k) (hp : 1 ≤ sumMap (nOf n) ms) : n < k := by
  obtain ⟨st, hst, hpos⟩ := exists_of_sumMap_pos (f := nOf n) (l := ms) (by omega)
  have : n ∈ ctrsOf st := List.count_pos_iff.mp hpos
  obtain ⟨e, he, rfl⟩ := List.mem_map.mp this
  exact hc st hst e he

/-- `c1` is the record `c0` made ready to handle the stanzas `ms` in exchange for the stanzas `cons` taken from the queue,
    having emitted `pre`: what the master lemma needs of everything that happens before `handleEnc` runs -/
structure Prepared (k : Nat) (c0 : Client) (cons : List Stanza) (c1 : Client) (pre ms : List Stanza) : Prop where
  sentQ : c1.sentQueue = c0.sentQueue
  receipts : c1.receipts = c0.receipts
  ownSK : c1.ownSK = c0.ownSK
  shown : c1.shown = c0.shown
  seen : c1.seen = c0.seen
  seenSK : c1.seenSK = c0.seenSK
  iq_from : ∀ e ∈ c1.iqReg, (e ∈ c0.iqReg ∧ ∀ st ∈ cons, stanzaIq st ≠ some e.1) ∨
    ((∃ p q, e.2 = Cont.keysForPending p q) ∧ ∃ st ∈ pre, stanzaIq st = some e.1)
  first_keep : ∀ e ∈ c0.iqReg, ∀ i, firstGroupCont e.2 i → e ∈ c1.iqReg
  iqKeys : keysNodup c1.iqReg
  contS_eq : ∀ id r, contS id r c1.iqReg = contS id r c0.iqReg
  slot_eq : ∀ i, slotS i c1.iqReg = slotS i c0.iqReg
  parked : ∀ e ∈ c1.pendingIn, ∀ st ∈ e.2, ParkGood k e.1 st
  pendKeys : keysNodup c1.pendingIn
  ans_pend : ∀ e ∈ c1.pendingIn, ∃ k ∈ c1.iqReg, k.2 = Cont.keysForPending e.1.1 e.1.2
  tokens : ∀ id, sumMap (downTok id) cons + pendS id c0.pendingIn = sumMap (downTok id) ms + pendS id c1.pendingIn
  nonces : ∀ n, sumMap (nOf n) cons + pendN n c0.pendingIn = sumMap (nOf n) ms + pendN n c1.pendingIn
  pre : ∀ st ∈ pre, PlainUp st

theorem RecipStep.ofHandled {cons rest pre ms : List Stanza} {c1 c' : Client} {out : List Stanza}
    (hT : TV ex accts groups L V) (hx : x ∈ accts) (hq : V.outb x = cons ++ rest)
    (hp : Prepared V.nextCtr (V.cl x) cons c1 pre ms) (hh : Handled c1 ms c' out)
    (cons_plain : ∀ st ∈ cons, ∀ id r, retryDownTok id r st = 0 ∧ rcptOut id r st = 0)
    (ms_cts : ∀ st ∈ ms, ∀ e ∈ ctsOf st, e.2.ctr < V.nextCtr) :
    RecipStep accts groups L V x cons rest c' (pre ++ out) V.nextCtr := by
  have hcg := hT.clients x
  have hsc1 : ∀ id, shownC c1 id = shownC (V.cl x) id := fun id => shownC_congr hp.shown id
  have hpre1 : ∀ id, sumMap (retryUpTok id) pre = 0 := fun id => sumMap_eq_zero fun st hst => ((hp.pre st hst).2 id 0 []).2.1
  have hpre2 : ∀ id, sumMap (rcptIn id) pre = 0 := fun id => sumMap_eq_zero fun st hst => ((hp.pre st hst).2 id 0 []).2.2.1
  have hseenlt : ∀ n, (n ∈ c'.seen.map Prod.snd ∨ n ∈ c'.seenSK.map Prod.snd) → n < V.nextCtr := by
    intro n hn
    rcases hh.seen n hn with (h | h) | h
    · rw [hp.seen] at h
      obtain ⟨e, he, rfl⟩ := List.mem_map.mp h
      exact hcg.seen e he
    · rw [hp.seenSK] at h
      obtain ⟨e, he, rfl⟩ := List.mem_map.mp h
      exact hcg.seenSK e he
    · exact nonce_lt_of_pos ms_cts h
  exact {
    hx := hx
    hq := hq
    hk := Nat.le_refl _
    sentQ := hh.same.sentQ.trans hp.sentQ
    receipts := hh.same.receipts.trans hp.receipts
    ownSK := hh.same.ownSK.trans hp.ownSK
    contS_eq := by intro id r; rw [hh.same.iqReg]; exact hp.contS_eq id r
    slot_eq := by intro i; rw [hh.same.iqReg]; exact hp.slot_eq i
    first_keep := by intro e he i hf; rw [hh.same.iqReg]; exact hp.first_keep e he i hf
    iq_new := by intro e he; rw [hh.same.iqReg] at he; exact (hp.iq_from e he).imp And.left And.left
    cons_plain := cons_plain
    out_plain := by
      intro st hst id r
      rcases List.mem_append.mp hst with h | h
      · exact ⟨((hp.pre st h).2 id r groups).1, ((hp.pre st h).2 id r groups).2.2.2⟩
      · exact hh.outPlain st h id r groups
    shown_mono := by
      intro id
      have := hh.rc id
      rw [hsc1] at this
      omega
    good_c := {
      seen := fun e he => hseenlt e.2 (Or.inl (List.mem_map.mpr ⟨e, he, rfl⟩))
      seenSK := fun e he => hseenlt e.2 (Or.inr (List.mem_map.mpr ⟨e, he, rfl⟩))
      conts := by
        rw [hh.same.iqReg]
        intro e he
        rcases hp.iq_from e he with h | ⟨⟨p, q, h⟩, _⟩
        · exact hcg.conts e h.1
        · rw [h]; trivial
      iqKeys := by rw [hh.same.iqReg]; exact hp.iqKeys
      pendKeys := by rw [hh.same.pend]; exact hp.pendKeys
      parked := by rw [hh.same.pend]; exact hp.parked }
    good_out := by
      intro st hst
      rcases List.mem_append.mp hst with h | h
      · exact (hp.pre st h).1 _ _
      · obtain ⟨a1, a2, a3, a4, a5⟩ := hh.outGood st h
        exact ⟨a1, (fun e he => by rw [a2] at he; cases he), a3, a4, a5⟩
    cons_R := by
      intro a n _ _
      have h1 := hh.bal n.id
      have h2 := hp.tokens n.id
      rw [hsc1] at h1
      rw [hh.same.pend, sumMap_append, hpre1]
      omega
    rcons_R := by
      intro a n _ _
      have := hh.rc n.id
      rw [hsc1] at this
      rw [sumMap_append, hpre2, Nat.zero_add]
      exact this
    ans_iq := by
      intro e he
      rw [hh.same.iqReg] at he
      exact (hp.iq_from e he).imp id fun ⟨_, st, hst, h⟩ => ⟨st, List.mem_append_left _ hst, h⟩
    ans_pend := by rw [hh.same.pend, hh.same.iqReg]; exact hp.ans_pend
    kept_R := by
      intro a n _ _
      have h1 := hh.bal n.id
      have h2 := hp.tokens n.id
      have h3 := hh.rc n.id
      rw [hh.same.pend, sumMap_append, hpre1]
      omega
    unop_pend := by
      intro n
      have := hp.nonces n
      rw [hh.same.pend]
      omega
    unop_seen := by
      intro n hn
      rcases hh.seen n hn with h | h
      · left; rw [← hp.seen, ← hp.seenSK]; exact h
      · right
        have := hp.nonces n
        rw [hh.same.pend]
        omega }

theorem Prepared.park {k : Nat} {c0 c' : Client} {st : Stanza} {id : Nat} {peer : Dest} {part : Option Acct} {im : Bool}
    {encs : List (Option Acct × Ct)} {pl : Option Payload} {sender : Acct} {out : List Stanza}
    (hcg : ClientGood k c0) (hans : ∀ e ∈ c0.pendingIn, ∃ k ∈ c0.iqReg, k.2 = Cont.keysForPending e.1.1 e.1.2)
    (hlt : ∀ e ∈ c0.iqReg, e.1 < c0.nextIq) (hst : st = .msg id peer part im encs pl) (hcts : CtsOK k st) (hsh : DownShape st)
    (hc : OutC c0 st peer part sender c' out) : Prepared k c0 [st] c' out [] := by
  obtain rfl := hc.out
  have hiq : stanzaIq st = none := hst ▸ rfl
  exact {
    sentQ := hc.sentQ, receipts := hc.receipts, ownSK := hc.ownSK, shown := hc.shown, seen := hc.seen, seenSK := hc.seenSK
    iq_from := by
      intro e he
      rw [hc.iqReg] at he
      rcases List.mem_append.mp he with h | h
      · refine Or.inl ⟨h, fun st' hst' => ?_⟩
        rw [List.mem_singleton.mp hst', hiq]
        exact fun h => by cases h
      · rw [List.mem_singleton] at h; subst h
        exact Or.inr ⟨⟨peer, part, rfl⟩, _, List.mem_singleton.mpr rfl, rfl⟩
    first_keep := by intro e he i _; rw [hc.iqReg]; exact List.mem_append_left _ he
    iqKeys := by
      rw [hc.iqReg]
      exact keysNodup_append_fresh hcg.iqKeys (fun p hp e => Nat.lt_irrefl _ (e ▸ hlt p hp))
    contS_eq := by
      intro id' r
      rw [hc.iqReg]
      simp [contS, contTok]
    slot_eq := by
      intro i
      rw [hc.iqReg]
      simp [slotS, slotTok]
    parked := by
      rw [hc.pend]
      intro e he st' hst'
      rcases (mem_insert_iff hcg.pendKeys).mp he with ⟨h1, _⟩ | h1
      · exact hcg.parked e h1 st' hst'
      · subst h1
        rcases List.mem_append.mp hst' with h2 | h2
        · obtain ⟨v, hv, hxv⟩ := lookup_getD_mem h2
          exact hcg.parked _ hv st' hxv
        · rw [List.mem_singleton] at h2; subst h2
          exact ⟨⟨id, im, encs, pl, hst⟩, hcts, hsh⟩
    pendKeys := by rw [hc.pend]; exact keysNodup_insert _ _ hcg.pendKeys
    ans_pend := by
      rw [hc.pend, hc.iqReg]
      intro e he
      rcases (mem_insert_iff hcg.pendKeys).mp he with ⟨h1, _⟩ | h1
      · obtain ⟨k, hk, hkk⟩ := hans e h1
        exact ⟨k, List.mem_append_left _ hk, hkk⟩
      · subst h1
        exact ⟨(c0.nextIq, .keysForPending peer part), by simp, rfl⟩
    tokens := by
      intro id'
      rw [hc.pend]; unfold pendS
      rw [sumMap_park hcg.pendKeys (downTok id') (peer, part) st]
      simp only [sumMap_cons, sumMap_nil']
      omega
    nonces := by
      intro n
      rw [hc.pend]; unfold pendN
      rw [sumMap_park hcg.pendKeys (nOf n) (peer, part) st]
      simp only [sumMap_cons, sumMap_nil']
      omega
    pre := fun st' hst' => List.mem_singleton.mp hst' ▸ PlainUp.getKeys _ _ }

theorem Prepared.answered {k : Nat} {c0 cK : Client} {hd : Stanza} {iq : Nat} {peer : Dest} {part : Option Acct}
    (hcg : ClientGood k c0) (hans : ∀ e ∈ c0.pendingIn, ∃ k ∈ c0.iqReg, k.2 = Cont.keysForPending e.1.1 e.1.2)
    (hk0 : lookup c0.iqReg iq = some (.keysForPending peer part)) (hiq : stanzaIq hd = some iq)
    (hd0 : ∀ n, downTok n hd = 0 ∧ nOf n hd = 0)
    (hsame : SameBut { c0 with iqReg := erase c0.iqReg iq } cK) (hreg : cK.iqReg = erase c0.iqReg iq) :
    Prepared k c0 [hd] { cK with pendingIn := erase c0.pendingIn (peer, part) } []
      ((lookup c0.pendingIn (peer, part)).getD []) := by
  -- the continuation that ran is the only one registered under `iq`
  have huniq : ∀ e ∈ c0.iqReg, e.1 = iq → e.2 = Cont.keysForPending peer part := by
    intro e he ei
    have := lookup_of_mem hcg.iqKeys he
    rw [ei, hk0] at this
    exact (Option.some.inj this).symm
  -- what was parked under the key is what is to be handled; the answer `hd` itself carries no weight
  have hsplit : ∀ f : Stanza → Nat, f hd = 0 →
      sumMap f [hd] + sumMap (fun e => sumMap f e.2) c0.pendingIn =
        sumMap f ((lookup c0.pendingIn (peer, part)).getD []) +
          sumMap (fun e => sumMap f e.2) (erase c0.pendingIn (peer, part)) := by
    intro f hf
    have := sumMap_erase_getD hcg.pendKeys (fun l => sumMap f l) rfl (peer, part)
    simp only [sumMap_cons, sumMap_nil', hf]
    omega
  exact {
    sentQ := hsame.sentQ, receipts := hsame.receipts, ownSK := hsame.ownSK, shown := hsame.shown
    seen := hsame.seen, seenSK := hsame.seenSK
    iq_from := by
      intro e he
      have he : e ∈ cK.iqReg := he
      rw [hreg] at he
      obtain ⟨e1, e2⟩ := mem_erase_iff.mp he
      refine Or.inl ⟨e1, ?_⟩
      intro st hst
      rw [List.mem_singleton] at hst; subst hst
      rw [hiq]
      exact fun e' => e2 (Option.some.inj e').symm
    first_keep := by
      intro e he i hf
      show e ∈ cK.iqReg
      rw [hreg]
      refine mem_erase_iff.mpr ⟨he, fun ei => ?_⟩
      rw [huniq e he ei] at hf
      exact hf
    iqKeys := by show keysNodup cK.iqReg; rw [hreg]; exact keysNodup_erase iq hcg.iqKeys
    contS_eq := by
      intro id r
      show contS id r cK.iqReg = _
      rw [hreg]
      have := contS_erase hcg.iqKeys hk0 id r
      simp only [contTok, Nat.add_zero] at this
      exact this
    slot_eq := by
      intro i
      show slotS i cK.iqReg = _
      rw [hreg]
      have := slotS_erase hcg.iqKeys hk0 i
      simp only [slotTok, Nat.add_zero] at this
      exact this
    parked := fun e he => hcg.parked e (mem_erase he)
    pendKeys := keysNodup_erase _ hcg.pendKeys
    ans_pend := by
      intro e he
      show ∃ k ∈ cK.iqReg, _
      rw [hreg]
      obtain ⟨e1, e2⟩ := mem_erase_iff.mp he
      obtain ⟨k, hk, hkk⟩ := hans e e1
      refine ⟨k, mem_erase_iff.mpr ⟨hk, fun ki => ?_⟩, hkk⟩
      have := huniq k hk ki
      rw [hkk] at this
      cases this
      exact e2 rfl
    tokens := fun id => hsplit (downTok id) (hd0 id).1
    nonces := fun n => hsplit (nOf n) (hd0 n).2
    pre := fun _ h => by cases h }

end

end Yow.E2E
