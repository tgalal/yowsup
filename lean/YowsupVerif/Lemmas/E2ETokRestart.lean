/-
  A client restarts (allowed at quiescence with nothing pending): the volatile part of its record is emptied, which at a
  settled state (E2ETokQuiesce) takes no token away.  An instance of the master lemma for the sending side (`SenderStep`).
-/
import YowsupVerif.Lemmas.E2ETokDeliver
import YowsupVerif.Lemmas.E2ETokQuiesce
namespace Yow.E2E

section
variable {ex : Bool} {accts : List Acct} {groups : List (Nat × List Acct)}

theorem restart_TInv (hw : WFConfig accts groups) {s : Sys} {a : Acct}
    (h : TInv ex accts groups s) (hall : Allowed s (.restart a) = true) : TInv ex accts groups (step s (.restart a)) := by
  obtain ⟨hA, hT⟩ := h
  refine ⟨step_inv hA hall, ?_⟩
  simp only [Allowed, Bool.and_eq_true] at hall
  obtain ⟨⟨hreg, hqu⟩, hcl⟩ := hall
  have ha : a ∈ accts := (hA.reg a).mp hreg
  have hacc : a ∈ (view s).accounts := by rw [hT.acc]; exact ha
  have hset : settled s = true := by unfold settled; rw [hqu, hcl]; rfl
  have hqs := quiescent_queues hqu
  have hemp := settled_client hset
  have hsub : (step s (.restart a)).submitted = s.submitted := rfl
  rw [hsub]
  have hv : view (step s (.restart a)) = ((view s).popOut a ((view s).outb a)).cstep a
      { getClient s a with sentQueue := [], pendingIn := [], iqReg := [], retries := [], skipEnc := [] } [] (view s).nextCtr := by
    simp only [step]
    rw [view_setClient _ _ _ hacc, View.popOut_self]
  have hss : SenderStep accts groups s.submitted (view s) a [] ((view s).outb a)
      { getClient s a with sentQueue := [], pendingIn := [], iqReg := [], retries := [], skipEnc := [] } [] (view s).nextCtr := {
    hx := ha
    hq := rfl
    hk := Nat.le_refl _
    pend := (hemp a).2.symm
    shown := rfl
    seen := rfl
    seenSK := rfl
    cons_plain := fun st hst => by cases hst
    out_plain := fun st hst => by cases hst
    conts := fun e he => by cases he
    iqKeys := keysNodup_nil
    good_out := fun st hst => by cases hst
    cons_S := by
      intro n _ r _
      show contS n.id r [] + _ = contS n.id r (getClient s a).iqReg + _
      rw [(hemp a).1]
      rfl
    rcons_S := by
      intro n _ r _
      simp only [sumMap_nil', Nat.add_zero]
      rfl
    ans_iq := fun e he => by cases he
    ans_pend := by
      intro e he
      have : (view s).cl a = getClient s a := rfl
      rw [this, (hemp a).2] at he
      cases he
    kept_S := by
      intro n _ r _
      left
      show inTransitV (view s) a n.id r + 0 = 0
      unfold inTransitV pendS
      have e1 : (view s).inb a = [] := (hqs a).1
      have e2 : (view s).outb r = [] := (hqs r).2
      have e3 : (view s).inb r = [] := (hqs r).1
      have e4 : (view s).outb a = [] := (hqs a).2
      have e5 : ((view s).cl r).pendingIn = [] := (hemp r).2
      rw [e1, e2, e3, e4, e5]
      rfl
    ret3 := by
      intro n hn g hg
      rcases hT.ret3 a n hn g hg with h1 | ⟨e, he, _⟩
      · exact Or.inl h1
      · have : (view s).cl a = getClient s a := rfl
        rw [this, (hemp a).1] at he
        cases he
    slots := fun i => by simp [sendSlots, slotS, sentS]
    rids := hT.rids a
    retq := fun e he => by cases he
    unop_out := by
      intro r _ m
      simp }
  exact finish_sender hw.1 hT hss hv

end

end Yow.E2E
