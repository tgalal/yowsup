/-
  The token invariant `TInv` holds initially and along every allowed fault-free run with at most 100 submissions
  (`sendCount` counts them in a list of actions), by `run_induction` over the step lemmas of E2ETokAppSend, E2ETokServer,
  E2ETokDeliver and E2ETokRestart; the number of submissions of a run, likewise.
-/
import YowsupVerif.Lemmas.E2ETokRestart
import YowsupVerif.Lemmas.E2ETokServer
namespace Yow.E2E

def sendCount : List Act → Nat
  | [] => 0
  | .appSend _ _ :: as => sendCount as + 1
  | _ :: as => sendCount as

section
variable {ex : Bool} {accts : List Acct} {groups : List (Nat × List Acct)}

theorem view_init (accts : List Acct) (groups : List (Nat × List Acct)) :
    view (initSys accts groups) = ⟨fun _ => {}, fun _ => [], fun _ => [], groups, 0, [], accts⟩ :=
  View.ext (funext (getClient_init accts groups)) rfl rfl rfl rfl rfl (by simp [view, initSys, List.map_map, Function.comp_def])

theorem init_TInv (hw : WFConfig accts groups) : TInv ex accts groups (initSys accts groups) := by
  refine ⟨init_inv accts groups hw, ?_⟩
  rw [show (initSys accts groups).submitted = [] from rfl, view_init]
  exact {
    acc := rfl
    grp := rfl
    clients := fun r => ⟨(fun e he => by cases he), (fun e he => by cases he), (fun e he => by cases he), keysNodup_nil,
      keysNodup_nil, (fun e he => by cases he)⟩
    ups := fun r st hst => by cases hst
    downs := fun r st hst => by cases hst
    neq := fun a n hn => by cases hn
    cons := fun a n hn => by cases hn
    rcons := fun a n hn => by cases hn
    ans := fun r => ⟨(fun e he => by cases he), (fun e he => by cases he)⟩
    unop := by
      intro r _ x
      have : wayV accts ⟨fun _ => {}, fun _ => [], fun _ => [], groups, 0, [], accts⟩ r x = 0 :=
        (Nat.zero_add _).trans (sumMap_eq_zero fun a _ => by split <;> rfl)
      rw [this]
      exact ⟨Nat.zero_le _, fun h => absurd h (by decide)⟩
    kept := fun a n hn => by cases hn
    ret3 := fun a n hn => by cases hn
    slots := fun a i => Nat.zero_le _
    rids := fun r e he => by cases he
    retq := fun a e he => by cases he }

theorem sendCount_cons (act : Act) (acts : List Act) : sendCount (act :: acts) = sendCount acts + (submits act).length := by
  cases act <;> rfl

/-- a step submits exactly what it is counted for: a bound on the submissions of a run is handed on to the rest of the run -/
theorem step_submitted_len {s : Sys} {act : Act} (hA : AInv accts groups (abs s)) (hall : Allowed s act = true) (acts : List Act) :
    (step s act).submitted.length + sendCount acts = s.submitted.length + sendCount (act :: acts) := by
  rw [(step_good hA hall).2, List.length_append, sendCount_cons, Nat.add_right_comm, Nat.add_assoc]

theorem run_submitted_len (acts : List Act) (s : Sys) (h : AInv accts groups (abs s)) (ha : AllowedRun s acts = true) :
    (run s acts).submitted.length = s.submitted.length + sendCount acts :=
  (run_induction (Inv := fun s' acts' => AInv accts groups (abs s') ∧
      s'.submitted.length + sendCount acts' = s.submitted.length + sendCount acts)
    (fun _ _ acts' h' hall => ⟨step_inv h'.1 hall, (step_submitted_len h'.1 hall acts').trans h'.2⟩) acts s ⟨h, rfl⟩ ha).2

theorem TInv_run (hw : WFConfig accts groups) (hnd : ∀ g ∈ groups, g.2.Nodup) (acts : List Act) (s : Sys)
    (h : TInv ex accts groups s) (ha : AllowedRun s acts = true) (hf : NoFault acts = true)
    (hn : s.submitted.length + sendCount acts ≤ 100) : TInv ex accts groups (run s acts) := by
  refine (run_induction (Inv := fun s acts => TInv ex accts groups s ∧ NoFault acts = true ∧
    s.submitted.length + sendCount acts ≤ 100) ?_ acts s ⟨h, hf, hn⟩ ha).1
  intro s act acts ⟨h, hf, hn⟩ hall
  have hn' : (step s act).submitted.length + sendCount acts ≤ 100 := step_submitted_len h.1 hall acts ▸ hn
  have hlen : s.submitted.length ≤ 100 := Nat.le_trans (Nat.le_add_right _ _) hn
  cases act with
  | appSend a n => exact ⟨appSend_TInv' hw h hall, hf, hn'⟩
  | process a => exact ⟨process_TInv hw hnd h hall, hf, hn'⟩
  | deliver a f =>
    cases f with
    | none => exact ⟨deliver_TInv hw h hall hlen, hf, hn'⟩
    | dup => exact absurd hf Bool.false_ne_true
    | corrupt => exact absurd hf Bool.false_ne_true
  | restart a => exact ⟨restart_TInv hw h hall, hf, hn'⟩

end

end Yow.E2E
