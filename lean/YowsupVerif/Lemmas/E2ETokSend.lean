/-
  The sending client in the token count.  `Src`: a client has taken the token of a message in hand while consuming
  stanzas from its queue.  It either registers a continuation that keeps the token (`Src.toCont`) or sends it off in a
  message stanza (`Src.toMsg`); both are a `SenderStep`, which preserves the invariant.
-/
import YowsupVerif.Lemmas.E2ETokSendSpec
namespace Yow.E2E

/-- the token of `id` for `r` in the hand of a client that holds `n` for `who` (everybody, or one participant) -/
def handTok (n : Node) (who : Option Acct) (id : Nat) (r : Acct) : Nat :=
  if n.id = id ∧ (who = none ∨ who = some r) then 1 else 0
/-- the place in the sent queue the node in hand will take: a resend to a group participant takes none -/
def handSlot (n : Node) (who : Option Acct) (i : Nat) : Nat :=
  if n.id = i ∧ (who = none ∨ isGroupDest n.dest = false) then 1 else 0

/-- a stanza that carries no token at all -/
def PlainUp (st : Stanza) : Prop :=
  (∀ k c, UpGood k c st) ∧ ∀ id r groups, upTok id r st = 0 ∧ retryUpTok id st = 0 ∧ rcptIn id st = 0 ∧ upN groups r id st = 0

theorem PlainUp.ack (i c : Nat) : PlainUp (.ack i c) :=
  ⟨fun _ _ => ⟨trivial, (fun e he => by cases he), trivial, (fun _ _ _ e => by cases e), (fun _ _ _ _ e => by cases e)⟩,
   fun _ _ _ => ⟨rfl, rfl, rfl, rfl⟩⟩
theorem PlainUp.getKeys (i : Nat) (j : List Acct) : PlainUp (.getKeys i j) :=
  ⟨fun _ _ => ⟨trivial, (fun e he => by cases he), trivial, (fun _ _ _ e => by cases e), (fun _ _ _ _ e => by cases e)⟩,
   fun _ _ _ => ⟨rfl, rfl, rfl, rfl⟩⟩
theorem PlainUp.getGroup (i g : Nat) : PlainUp (.getGroup i g) :=
  ⟨fun _ _ => ⟨trivial, (fun e he => by cases he), trivial, (fun _ _ _ e => by cases e), (fun _ _ _ _ e => by cases e)⟩,
   fun _ _ _ => ⟨rfl, rfl, rfl, rfl⟩⟩

/-- `x` has consumed `cons`, its record is `c1`, and it holds the token of `n` for `who`: in no continuation, not on the wire -/
structure Src (accts : List Acct) (groups : List (Nat × List Acct)) (L : List (Acct × Node)) (V : View) (x : Acct)
    (cons rest : List Stanza) (c1 : Client) (n : Node) (who : Option Acct) : Prop where
  hx : x ∈ accts
  hq : V.outb x = cons ++ rest
  uniq : ∀ n', (x, n') ∈ L → n'.id = n.id → n' = n
  pend : c1.pendingIn = (V.cl x).pendingIn
  shown : c1.shown = (V.cl x).shown
  seen : c1.seen = (V.cl x).seen
  seenSK : c1.seenSK = (V.cl x).seenSK
  receipts : c1.receipts = (V.cl x).receipts
  ownSK : c1.ownSK = (V.cl x).ownSK
  cons_plain : ∀ st ∈ cons, ∀ id r, downTok id st = 0 ∧ nOf id st = 0 ∧ rcptOut id r st = 0
  conts : ∀ e ∈ c1.iqReg, ContShape e.2
  iqKeys : keysNodup c1.iqReg
  iq_lt : ∀ e ∈ c1.iqReg, e.1 < c1.nextIq
  tok : ∀ n', (x, n') ∈ L → ∀ r, r ∈ intendedG groups x n' →
    contS n'.id r c1.iqReg + handTok n who n'.id r = contS n'.id r (V.cl x).iqReg + sumMap (retryDownTok n'.id r) cons
  slot : ∀ i, sendSlots c1 i + handSlot n who i ≤ 1
  iq_sub : ∀ e ∈ c1.iqReg, e ∈ (V.cl x).iqReg ∧ ∀ st ∈ cons, stanzaIq st ≠ some e.1
  pend_ok : ∀ e ∈ (V.cl x).pendingIn, ∃ k ∈ c1.iqReg, k.2 = Cont.keysForPending e.1.1 e.1.2
  kept : ∀ n', (x, n') ∈ L → ∀ r, r ∈ intendedG groups x n' →
    inTransitV V x n'.id r = sumMap (retryDownTok n'.id r) cons ∨ n' ∈ c1.sentQueue ∨ 100 < V.submitted.length
  kept_hand : (x, n) ∈ L → ∀ r, r ∈ intendedG groups x n → handTok n who n.id r = 1 →
    inTransitV V x n.id r = sumMap (retryDownTok n.id r) cons
  ret3 : ∀ n', (x, n') ∈ L → ∀ g, n'.dest = .group g →
    (lookup c1.ownSK g).isSome = true ∨ (∃ e ∈ c1.iqReg, firstGroupCont e.2 n'.id) ∨ (n'.id = n.id ∧ who = none)
  retq : ∀ e ∈ c1.iqReg, ∀ n' w c, e.2 = Cont.keysForRetry n' w c → isGroupDest n'.dest = true →
    n' ∈ c1.sentQueue ∨ 100 < V.submitted.length

/-- the node whose token a continuation holds, and for whom -/
def contNode : Cont → Option (Node × Option Acct)
  | .keysForSend n => some (n, none)
  | .groupInfo n => some (n, none)
  | .keysForGroup n _ _ => some (n, none)
  | .keysForRetry n w _ => some (n, some w)
  | .keysForPending _ _ => none

theorem contNode_tok {k : Cont} {n : Node} {who : Option Acct} (h : contNode k = some (n, who)) (id : Nat) (r : Acct) :
    contTok id r k = handTok n who id r := by
  cases k with
  | keysForSend m => cases h; simp [contTok, handTok]
  | groupInfo m => cases h; simp [contTok, handTok]
  | keysForGroup m a b => cases h; simp [contTok, handTok]
  | keysForRetry m w c =>
    cases h
    simp only [contTok, handTok]
    by_cases h2 : w = r <;> simp [h2]
  | keysForPending p q => cases h

theorem contNode_slot {k : Cont} {n : Node} {who : Option Acct} (h : contNode k = some (n, who)) (i : Nat) :
    slotTok i k = handSlot n who i := by
  cases k with
  | keysForSend m => cases h; simp [slotTok, handSlot]
  | groupInfo m => cases h; simp [slotTok, handSlot]
  | keysForGroup m a b => cases h; simp [slotTok, handSlot]
  | keysForRetry m w c => cases h; simp [slotTok, handSlot]
  | keysForPending p q => cases h

theorem contNode_first {k : Cont} {n : Node} {who : Option Acct} (h : contNode k = some (n, who)) {i : Nat}
    (hf : firstGroupCont k i) : n.id = i ∧ who = none := by
  cases k with
  | keysForSend m => cases hf
  | groupInfo m => cases h; exact ⟨hf, rfl⟩
  | keysForGroup m a b => cases h; exact ⟨hf, rfl⟩
  | keysForRetry m w c => cases hf
  | keysForPending p q => cases h

theorem contNode_sub {accts : List Acct} {groups : List (Nat × List Acct)} {sub : List (Acct × Node)} {a : Acct} {k : Cont}
    {n : Node} {who : Option Acct} (h : contNode k = some (n, who)) (hc : ContOK accts groups sub a k) :
    (a, n) ∈ sub ∧ ∀ w, who = some w → w ∈ intendedG groups a n := by
  cases k with
  | keysForSend m => cases h; exact ⟨hc, fun _ e => by cases e⟩
  | groupInfo m => cases h; exact ⟨hc, fun _ e => by cases e⟩
  | keysForGroup m a b => cases h; exact ⟨hc.1, fun _ e => by cases e⟩
  | keysForRetry m w c => cases h; exact ⟨hc.1, fun _ e => by cases e; exact hc.2⟩
  | keysForPending p q => cases h

theorem contNode_firstGroup {k : Cont} {n : Node} (h : contNode k = some (n, none)) (hs : ContShape k) {g : Nat}
    (hg : n.dest = .group g) : firstGroupCont k n.id := by
  cases k with
  | keysForSend m => cases h; rw [ContShape, hg] at hs; cases hs
  | groupInfo m => cases h; rfl
  | keysForGroup m a b => cases h; rfl
  | keysForRetry m w c => cases h
  | keysForPending p q => cases h

theorem handTok_id {n : Node} {who : Option Acct} {id : Nat} {r : Acct} (h : handTok n who id r = 1) : n.id = id := by
  unfold handTok at h
  split at h
  · next hc => exact hc.1
  · cases h

theorem FreshMsg.unop {lo k : Nat} {st : Stanza} (hf : FreshMsg lo k st) (groups : List (Nat × List Acct)) (r : Acct) (m : Nat) :
    sumMap (upN groups r m) [st] ≤ 1 ∧ (1 ≤ sumMap (upN groups r m) [st] → lo ≤ m) := by
  simp only [sumMap_cons, sumMap_nil', Nat.add_zero]
  have h1 := upN_le groups r st m
  have h2 : nOf m st ≤ 1 := (List.nodup_iff_count.mp hf.nodup) m
  refine ⟨by omega, ?_⟩
  intro hge
  have : 0 < (ctrsOf st).count m := by unfold nOf at h1; omega
  exact hf.fresh m (List.count_pos_iff.mp this)

section
variable {ex : Bool} {accts : List Acct} {groups : List (Nat × List Acct)}

theorem Src.rcons {L V x cons rest c1 n who} (hs : Src accts groups L V x cons rest c1 n who) {c' : Client} (hc : c'.receipts = c1.receipts)
    (id : Nat) (r : Acct) : rcptGot c' id r = rcptGot (V.cl x) id r + sumMap (rcptOut id r) cons := by
  rw [sumMap_eq_zero (fun st' h' => (hs.cons_plain st' h' id r).2.2)]
  unfold rcptGot
  rw [hc, hs.receipts]
  rfl

theorem Src.toCont {L V x cons rest c1 n who} (h : TV ex accts groups L V) (hs : Src accts groups L V x cons rest c1 n who) {k1 : Cont}
    (hnode : contNode k1 = some (n, who)) (hshape : ContShape k1)
    (hretq : ∀ w, who = some w → isGroupDest n.dest = true → n ∈ c1.sentQueue ∨ 100 < V.submitted.length)
    {pre : List Stanza} {st : Stanza} (hpre : ∀ p ∈ pre, PlainUp p ∧ stanzaIq p = none) (hst : PlainUp st)
    (hiq : stanzaIq st = some c1.nextIq) :
    SenderStep accts groups L V x cons rest
      { c1 with nextIq := c1.nextIq + 1, iqReg := c1.iqReg ++ [(c1.nextIq, k1)] } (pre ++ [st]) V.nextCtr := by
  have hplain : ∀ p ∈ pre ++ [st], PlainUp p :=
    List.forall_mem_append.mpr ⟨fun p hp => (hpre p hp).1, List.forall_mem_singleton.mpr hst⟩
  have hup : ∀ id r, sumMap (upTok id r) (pre ++ [st]) = 0 :=
    fun id r => sumMap_eq_zero (fun p hp => ((hplain p hp).2 id r []).1)
  have hnew : ∀ {P : Nat × Cont → Prop}, (∀ e ∈ c1.iqReg, P e) → P (c1.nextIq, k1) → ∀ e ∈ c1.iqReg ++ [(c1.nextIq, k1)], P e :=
    fun h1 h2 => List.forall_mem_append.mpr ⟨h1, List.forall_mem_singleton.mpr h2⟩
  -- the conditions not listed are those of `hs`
  exact { hs with
    hk := Nat.le_refl _
    cons_plain := fun st' h' id => ⟨(hs.cons_plain st' h' id 0).1, (hs.cons_plain st' h' id 0).2.1⟩
    out_plain := fun p hp id => ⟨((hplain p hp).2 id 0 []).2.1, ((hplain p hp).2 id 0 []).2.2.1⟩
    conts := hnew hs.conts hshape
    iqKeys := keysNodup_append_fresh hs.iqKeys (fun p hp e => Nat.lt_irrefl _ (e ▸ hs.iq_lt p hp))
    good_out := fun p hp => (hplain p hp).1 _ _
    cons_S := by
      intro n' hn' r hr
      have := hs.tok n' hn' r hr
      show contS n'.id r (c1.iqReg ++ [(c1.nextIq, k1)]) + _ = _
      rw [hup]
      simp only [contS, sumMap_append, sumMap_cons, sumMap_nil', contNode_tok hnode] at this ⊢
      omega
    rcons_S := fun n' _ r _ => hs.rcons rfl n'.id r
    ans_iq := hnew (fun e he => Or.inl (hs.iq_sub e he)) (Or.inr ⟨st, by simp, hiq⟩)
    ans_pend := by
      intro e he
      obtain ⟨k, hk, hkk⟩ := hs.pend_ok e he
      exact ⟨k, List.mem_append_left _ hk, hkk⟩
    kept_S := by
      intro n' hn' r hr
      rw [hup, Nat.add_zero]
      by_cases hh : handTok n who n'.id r = 1
      · obtain rfl := hs.uniq n' hn' (handTok_id hh).symm
        exact Or.inl (hs.kept_hand hn' r hr hh)
      · exact hs.kept n' hn' r hr
    ret3 := by
      intro n' hn' g hg
      rcases hs.ret3 n' hn' g hg with h1 | ⟨e, he, hf⟩ | ⟨hid, hw⟩
      · exact Or.inl h1
      · exact Or.inr ⟨e, List.mem_append_left _ he, hf⟩
      · obtain rfl := hs.uniq n' hn' hid
        subst hw
        exact Or.inr ⟨(c1.nextIq, k1), by simp, contNode_firstGroup hnode hshape hg⟩
    slots := by
      intro i
      have := hs.slot i
      unfold sendSlots slotS at this ⊢
      simp only [sumMap_append, sumMap_cons, sumMap_nil', contNode_slot hnode]
      omega
    rids := fun e he => h.rids x e (hs.receipts ▸ he)
    retq := by
      refine hnew hs.retq ?_
      intro n' w c hc hg
      have hc : k1 = Cont.keysForRetry n' w c := hc
      subst hc
      cases hnode
      exact hretq w rfl hg
    unop_out := by
      intro r _ m
      rw [sumMap_eq_zero (fun p hp => ((hplain p hp).2 m r groups).2.2.2)]
      exact ⟨Nat.zero_le _, fun hh => absurd hh (by omega)⟩ }

theorem Src.toMsg {L V x cons rest c1 n who} (h : TV ex accts groups L V) (hs : Src accts groups L V x cons rest c1 n who) {part : Option Acct}
    (hall : ∀ r, r ∈ intendedG groups x n → ((who = none ∨ who = some r) ↔ (part = none ∨ part = some r)))
    {sk : List (Nat × Nat)} {encs : List (Option Acct × Ct)} {k : Nat} (hk : V.nextCtr ≤ k)
    (hmono : ∀ g, (lookup c1.ownSK g).isSome = true → (lookup sk g).isSome = true)
    (hown : who = none → ∀ g, n.dest = .group g → (lookup sk g).isSome = true)
    (hf : FreshMsg V.nextCtr k (.msg n.id n.dest part n.payload.isMedia encs none))
    {q : List Node} (hnq : n ∈ q ∨ 100 < V.submitted.length) (hq1 : ∀ m ∈ c1.sentQueue, m ∈ q ∨ 100 < V.submitted.length)
    (hq2 : ∀ i, sentS i q ≤ sentS i c1.sentQueue + handSlot n who i) :
    SenderStep accts groups L V x cons rest
      { c1 with sentQueue := q, ownSK := sk } [.msg n.id n.dest part n.payload.isMedia encs none] k := by
  -- the conditions not listed are those of `hs`
  exact { hs with
    hk := hk
    cons_plain := fun st' h' id => ⟨(hs.cons_plain st' h' id 0).1, (hs.cons_plain st' h' id 0).2.1⟩
    out_plain := List.forall_mem_singleton.mpr (fun _ => ⟨rfl, rfl⟩)
    good_out := List.forall_mem_singleton.mpr
      ⟨trivial, hf.cts, hf.shape, (fun _ _ _ e => by cases e), (fun _ _ _ _ e => by cases e)⟩
    cons_S := by
      intro n' hn' r hr
      have := hs.tok n' hn' r hr
      show contS n'.id r c1.iqReg + _ = _
      simp only [sumMap_cons, sumMap_nil', upTok, Nat.add_zero]
      unfold handTok at this
      by_cases hid : n.id = n'.id
      · obtain rfl := hs.uniq n' hn' hid.symm
        simp only [hall r hr] at this ⊢
        exact this
      · rw [if_neg (fun hh => hid hh.1)] at this ⊢
        exact this
    rcons_S := fun n' _ r _ => hs.rcons rfl n'.id r
    ans_iq := fun e he => Or.inl (hs.iq_sub e he)
    ans_pend := hs.pend_ok
    kept_S := by
      intro n' hn' r hr
      by_cases hid : n.id = n'.id
      · obtain rfl := hs.uniq n' hn' hid.symm
        exact Or.inr hnq
      · rcases hs.kept n' hn' r hr with h1 | h1 | h1
        · left
          simp only [sumMap_cons, sumMap_nil', upTok, hid, false_and, if_false]
          exact h1
        · exact Or.inr (hq1 n' h1)
        · exact Or.inr (Or.inr h1)
    ret3 := by
      intro n' hn' g hg
      rcases hs.ret3 n' hn' g hg with h1 | h1 | ⟨hid, hw⟩
      · exact Or.inl (hmono g h1)
      · exact Or.inr h1
      · obtain rfl := hs.uniq n' hn' hid
        exact Or.inl (hown hw g hg)
    slots := by
      intro i
      have := hs.slot i
      have := hq2 i
      unfold sendSlots at *
      show slotS i c1.iqReg + sentS i q ≤ 1
      omega
    rids := fun e he => h.rids x e (hs.receipts ▸ he)
    retq := by
      intro e he n' w c hc hg
      rcases hs.retq e he n' w c hc hg with h1 | h1
      · exact hq1 n' h1
      · exact Or.inr h1
    unop_out := fun r _ m => hf.unop groups r m }

theorem Src.room {L V x cons rest c1 n who} (hs : Src accts groups L V x cons rest c1 n who) (hslotc : who = none ∨ isGroupDest n.dest = false)
    (hq : ∀ m ∈ c1.sentQueue, (x, m) ∈ V.submitted) (hn : (x, n) ∈ V.submitted) {q : List Node}
    (hq1 : ∀ m ∈ c1.sentQueue, m ∈ q ∨ 100 ≤ c1.sentQueue.length) : ∀ m ∈ c1.sentQueue, m ∈ q ∨ 100 < V.submitted.length := by
  by_cases hlen : V.submitted.length ≤ 100
  · have hroom : c1.sentQueue.length < 100 := by
      refine sentQueue_short (fun i => ?_) hq hn hlen
      have h1 := hs.slot i
      unfold sendSlots handSlot at h1
      simp only [hslotc, and_true] at h1
      omega
    exact fun m hm => (hq1 m hm).imp_right (fun h => absurd hroom (Nat.not_lt.mpr h))
  · exact fun _ _ => Or.inr (Nat.lt_of_not_le hlen)

/-- `s1`: the state in which the client holding the token runs the send function (consumed stanzas gone, record `c1`) -/
theorem Src.sent_all {L V x cons rest c1 n who} (h : TV ex accts groups L V) (hs : Src accts groups L V x cons rest c1 n who) {s1 s' : Sys}
    (hv : view s1 = (V.popOut x rest).cstep x c1 [] V.nextCtr) (hm : MsgSent s1 x c1 n none s')
    (hall : ∀ r, r ∈ intendedG groups x n → who = none ∨ who = some r) (hslotc : who = none ∨ isGroupDest n.dest = false)
    (hq : ∀ m ∈ c1.sentQueue, (x, m) ∈ V.submitted) (hn : (x, n) ∈ V.submitted) :
    ∃ sk q encs k,
      view s' = (V.popOut x rest).cstep x { c1 with sentQueue := q, ownSK := sk }
        [.msg n.id n.dest none n.payload.isMedia encs none] k ∧
      SenderStep accts groups L V x cons rest { c1 with sentQueue := q, ownSK := sk }
        [.msg n.id n.dest none n.payload.isMedia encs none] k ∧
      n ∈ q ∧ ∀ g, n.dest = .group g → (lookup sk g).isSome = true := by
  obtain ⟨sk, encs, k, hv', hf, hk, hmono, hown⟩ := hm
  obtain ⟨q, heq, hnq, hq1, hq2⟩ := enqueueSent_q { c1 with ownSK := sk } n
  have hctr : s1.nextCtr = V.nextCtr := congrArg View.nextCtr hv
  rw [hctr] at hf hk
  refine ⟨sk, q, encs, k, ?_, hs.toMsg h (fun r hr => ⟨fun _ => Or.inl rfl, fun _ => hall r hr⟩) hk hmono (fun _ => hown) hf
    (Or.inl hnq) (hs.room hslotc hq hn hq1) ?_, hnq, hown⟩
  · simp only [Option.isNone_none, if_true] at hv'
    rw [hv', hv, heq, View.cstep_cstep]
    rfl
  · intro i
    simp only [handSlot, hslotc, and_true]
    exact hq2 i

theorem Src.sent_one {L V x cons rest c1 n} {w : Acct} (h : TV ex accts groups L V) (hs : Src accts groups L V x cons rest c1 n (some w)) {s1 s' : Sys}
    (hv : view s1 = (V.popOut x rest).cstep x c1 [] V.nextCtr) (hm : MsgSent s1 x c1 n (some w) s')
    (hin : n ∈ c1.sentQueue ∨ 100 < V.submitted.length) :
    ∃ sk encs k,
      view s' = (V.popOut x rest).cstep x { c1 with ownSK := sk } [.msg n.id n.dest (some w) n.payload.isMedia encs none] k ∧
      SenderStep accts groups L V x cons rest { c1 with ownSK := sk }
        [.msg n.id n.dest (some w) n.payload.isMedia encs none] k := by
  obtain ⟨sk, encs, k, hv', hf, hk, hmono, _⟩ := hm
  have hctr : s1.nextCtr = V.nextCtr := congrArg View.nextCtr hv
  rw [hctr] at hf hk
  refine ⟨sk, encs, k, ?_, hs.toMsg h (fun _ _ => Iff.rfl) hk hmono (fun e => by cases e) hf hin (fun _ hm => Or.inl hm)
    (fun _ => Nat.le_add_right _ _)⟩
  simp only [Option.isNone_some, Bool.false_eq_true, if_false] at hv'
  rw [hv', hv, View.cstep_cstep]
  rfl

theorem Src.asked {L V x cons rest c1 n who} (h : TV ex accts groups L V) (hs : Src accts groups L V x cons rest c1 n who) {s1 : Sys} {pre : List Stanza}
    (hv : view s1 = (V.popOut x rest).cstep x c1 pre V.nextCtr) (hpre : ∀ p ∈ pre, PlainUp p ∧ stanzaIq p = none)
    {mk : Nat → Stanza} {k1 : Cont} (hmk : PlainUp (mk c1.nextIq)) (hiq : stanzaIq (mk c1.nextIq) = some c1.nextIq)
    (hnode : contNode k1 = some (n, who)) (hshape : ContShape k1)
    (hretq : ∀ w, who = some w → isGroupDest n.dest = true → n ∈ c1.sentQueue ∨ 100 < V.submitted.length) :
    view (sendIq s1 x c1 mk k1) = (V.popOut x rest).cstep x
        { c1 with nextIq := c1.nextIq + 1, iqReg := c1.iqReg ++ [(c1.nextIq, k1)] } (pre ++ [mk c1.nextIq]) V.nextCtr ∧
      SenderStep accts groups L V x cons rest
        { c1 with nextIq := c1.nextIq + 1, iqReg := c1.iqReg ++ [(c1.nextIq, k1)] } (pre ++ [mk c1.nextIq]) V.nextCtr := by
  refine ⟨?_, hs.toCont h hnode hshape hretq hpre hmk hiq⟩
  have hacc : x ∈ (view s1).accounts := by rw [hv]; exact h.mem_acc hs.hx
  rw [view_sendIq _ _ _ _ _ hacc, hv, View.cstep_cstep]
  rfl

end

end Yow.E2E
