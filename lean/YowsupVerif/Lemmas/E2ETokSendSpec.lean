/-
  What the functions of the send layer (`layer_send.py`) do, in the functional view: one equation for each of the three
  that end in `sendEnc`, with the new ciphertexts being whatever `encryptFor` returned; `MsgSent` is what token counting
  needs of them.  Which function runs is stated as a case principle over any property of the resulting state.
-/
import YowsupVerif.Lemmas.E2ETokFrames
namespace Yow.E2E

theorem intendedG_single {groups : List (Nat × List Acct)} {a : Acct} {n : Node} (hu : isGroupDest n.dest = false) {r w : Acct}
    (hr : r ∈ intendedG groups a n) (hw : w ∈ intendedG groups a n) : r = w := by
  unfold intendedG at hr hw
  cases hd : n.dest with
  | group g => rw [hd] at hu; cases hu
  | user b =>
    rw [hd] at hr hw
    simp only [List.mem_singleton] at hr hw
    rw [hr, hw]

theorem view_popClient {s : Sys} {a : Acct} (ha : a ∈ (view s).accounts) (rest : List Stanza) (c : Client) :
    view (setClient { s with outbound := insert s.outbound a rest } a c) = ((view s).popOut a rest).cstep a c [] (view s).nextCtr := by
  rw [view_setClient _ _ _ (by exact ha), view_setOutbound]
  rfl

theorem view_sendEnc (s : Sys) (a : Acct) (c : Client) (n : Node) (encs : List (Option Acct × Ct)) (part : Option Acct)
    (ha : a ∈ (view s).accounts) :
    view (sendEnc s a c n encs part) =
      (view s).cstep a (if part.isNone then enqueueSent c n else c) [.msg n.id n.dest part n.payload.isMedia encs none] (view s).nextCtr := by
  simp only [sendEnc]
  rw [view_emit, view_setClient _ _ _ ha]
  simp

theorem view_sendIq (s : Sys) (a : Acct) (c : Client) (mk : Nat → Stanza) (k : Cont) (ha : a ∈ (view s).accounts) :
    view (sendIq s a c mk k) =
      (view s).cstep a { c with nextIq := c.nextIq + 1, iqReg := c.iqReg ++ [(c.nextIq, k)] } [mk c.nextIq] (view s).nextCtr := by
  simp only [sendIq]
  rw [view_emit, view_setClient _ _ _ ha]
  simp

theorem enqueueSent_eq {c : Client} (n : Node) (h : c.sentQueue.length < 100) :
    enqueueSent c n = { c with sentQueue := c.sentQueue ++ [n] } := by
  unfold enqueueSent
  have : ¬ c.sentQueue.length ≥ 100 := by omega
  simp [this]

theorem enqueueSent_fields (c : Client) (n : Node) :
    (enqueueSent c n).sessions = c.sessions ∧ (enqueueSent c n).peerSK = c.peerSK ∧ (enqueueSent c n).ownSK = c.ownSK ∧
    (enqueueSent c n).pendingIn = c.pendingIn ∧ (enqueueSent c n).iqReg = c.iqReg ∧ (enqueueSent c n).seen = c.seen ∧
    (enqueueSent c n).seenSK = c.seenSK ∧ (enqueueSent c n).shown = c.shown ∧ (enqueueSent c n).nextIq = c.nextIq :=
  ⟨rfl, rfl, rfl, rfl, rfl, rfl, rfl, rfl, rfl⟩

theorem sentS_drop_le (i : Nat) (l : List Node) : sentS i (l.drop 1) ≤ sentS i l := by
  cases l with
  | nil => exact Nat.le_refl _
  | cons m l =>
    show sentS i l ≤ sentS i (m :: l)
    unfold sentS
    rw [sumMap_cons]
    omega

theorem enqueueSent_q (c : Client) (n : Node) :
    ∃ q, enqueueSent c n = { c with sentQueue := q } ∧ n ∈ q ∧ (∀ m ∈ c.sentQueue, m ∈ q ∨ 100 ≤ c.sentQueue.length) ∧
      ∀ i, sentS i q ≤ sentS i c.sentQueue + (if n.id = i then 1 else 0) := by
  by_cases h : c.sentQueue.length ≥ 100
  · refine ⟨c.sentQueue.drop 1 ++ [n], ?_, by simp, fun m _ => Or.inr h, ?_⟩
    · unfold enqueueSent; simp [h]
    · intro i
      have := sentS_drop_le i c.sentQueue
      unfold sentS at this ⊢
      rw [sumMap_append]
      simp only [sumMap_cons, sumMap_nil']
      omega
  · refine ⟨c.sentQueue ++ [n], ?_, by simp, fun m hm => Or.inl (List.mem_append_left _ hm), ?_⟩
    · unfold enqueueSent; simp [h]
    · intro i
      unfold sentS
      rw [sumMap_append]
      simp only [sumMap_cons, sumMap_nil']
      omega

theorem sentS_eq_count (i : Nat) (l : List Node) : sentS i l = (l.map (·.id)).count i := by
  unfold sentS
  induction l with
  | nil => rfl
  | cons m l ih =>
    rw [sumMap_cons, List.map_cons, List.count_cons, ih]
    by_cases h : m.id = i <;> simp [h] <;> omega

/-- the queue holds distinct submissions only, so one more fits -/
theorem sentQueue_short {sub : List (Acct × Node)} {c1 : Client} {n : Node} {a : Acct}
    (hslot : ∀ i, sentS i c1.sentQueue + (if n.id = i then 1 else 0) ≤ 1)
    (hq : ∀ m ∈ c1.sentQueue, (a, m) ∈ sub) (hn : (a, n) ∈ sub) (hlen : sub.length ≤ 100) :
    c1.sentQueue.length < 100 := by
  have hnd : ((c1.sentQueue ++ [n]).map (·.id)).Nodup := by
    rw [List.nodup_iff_count]
    intro i
    have := hslot i
    rw [sentS_eq_count] at this
    rw [List.map_append, List.count_append]
    simp only [List.map_cons, List.map_nil, List.count_cons, List.count_nil, beq_iff_eq]
    omega
  have hsub : (c1.sentQueue ++ [n]).map (·.id) ⊆ sub.map (fun p => p.2.id) := by
    intro i hi
    obtain ⟨m, hm, rfl⟩ := List.mem_map.mp hi
    rcases List.mem_append.mp hm with h1 | h1
    · exact List.mem_map.mpr ⟨(a, m), hq m h1, rfl⟩
    · rw [List.mem_singleton] at h1; subst h1
      exact List.mem_map.mpr ⟨(a, m), hn, rfl⟩
  have := List.Nodup.length_le_of_subset hnd hsub
  simp only [List.length_map, List.length_append, List.length_cons, List.length_nil] at this
  omega

/-- `manager.encrypt`: a `pkmsg` as long as the session waits for the peer's first message -/
theorem encryptFor_spec {c : Client} {peer : Acct} {plain : Plain} {nonce : Nat} {ct : Ct}
    (h : encryptFor c peer plain nonce = some ct) :
    ∃ se, lookup c.sessions peer = some se ∧ ct.sess = se.cur ∧ (ct.kind = .msg → se.pendingPre = false) ∧
      ct.kind ≠ .skmsg ∧ ct.plain = plain ∧ ct.corrupt = false ∧ ct.ctr = nonce := by
  unfold encryptFor at h
  cases hse : lookup c.sessions peer with
  | none => rw [hse] at h; cases h
  | some se =>
    rw [hse] at h
    cases h
    refine ⟨se, rfl, rfl, ?_, ?_, rfl, rfl, rfl⟩ <;> cases se.pendingPre <;> simp

theorem encryptFor_isSome (c : Client) (peer : Acct) (plain : Plain) (nonce : Nat) :
    (encryptFor c peer plain nonce).isSome = (lookup c.sessions peer).isSome := by
  unfold encryptFor
  cases lookup c.sessions peer <;> rfl

theorem encryptEach_spec (c : Client) (plain : Plain) (l : List Acct) : ∀ nonce,
    (∀ jc ∈ encryptEach c plain nonce l,
      ∃ n', nonce ≤ n' ∧ n' < nonce + l.length ∧ encryptFor c jc.1 plain n' = some jc.2) ∧
    ((encryptEach c plain nonce l).map (fun jc => jc.2.ctr)).Nodup ∧
    (∀ j ∈ l, (lookup c.sessions j).isSome = true → ∃ jc ∈ encryptEach c plain nonce l, jc.1 = j) := by
  induction l with
  | nil => intro nonce; exact ⟨fun _ h => (nomatch h), List.nodup_nil, fun _ h => (nomatch h)⟩
  | cons j js ih =>
    intro nonce
    obtain ⟨h1, h2, h3⟩ := ih (nonce + 1)
    have h1' : ∀ jc ∈ encryptEach c plain (nonce + 1) js,
        ∃ n', nonce ≤ n' ∧ n' < nonce + (j :: js).length ∧ encryptFor c jc.1 plain n' = some jc.2 := by
      intro jc hjc
      obtain ⟨n', p2, p3, p4⟩ := h1 jc hjc
      exact ⟨n', Nat.le_of_succ_le p2, by rw [List.length_cons]; omega, p4⟩
    cases hct : encryptFor c j plain nonce with
    | none =>
      simp only [encryptEach, hct]
      refine ⟨h1', h2, fun j' hj' hs => ?_⟩
      rcases List.mem_cons.mp hj' with rfl | e
      · rw [← encryptFor_isSome c j' plain nonce, hct] at hs; cases hs
      · exact h3 j' e hs
    | some ct =>
      simp only [encryptEach, hct]
      refine ⟨fun jc hjc => ?_, ?_, fun j' hj' hs => ?_⟩
      · rcases List.mem_cons.mp hjc with rfl | e
        · exact ⟨nonce, Nat.le_refl _, by rw [List.length_cons]; omega, hct⟩
        · exact h1' jc e
      · -- the first nonce is below those of the tail
        rw [List.map_cons, List.nodup_cons]
        refine ⟨fun hm => ?_, h2⟩
        obtain ⟨jc, hjc, e⟩ := List.mem_map.mp hm
        obtain ⟨n', p2, _, p4⟩ := h1 jc hjc
        obtain ⟨_, _, _, _, _, _, _, q⟩ := encryptFor_spec p4
        obtain ⟨_, _, _, _, _, _, _, q'⟩ := encryptFor_spec hct
        rw [q, q'] at e
        omega
      · rcases List.mem_cons.mp hj' with rfl | e
        · exact ⟨(j', ct), List.mem_cons_self, rfl⟩
        · obtain ⟨jc, hjc, hj⟩ := h3 j' e hs
          exact ⟨jc, List.mem_cons_of_mem _ hjc, hj⟩

/-- the own sender keys `sk` once `ownSenderKey c g` (`group_create_skmsg`) has found or made the key `gen` of `g` -/
structure OwnKey (c : Client) (g : Nat) (sk : List (Nat × Nat)) (gen : Nat) : Prop where
  key : lookup sk g = some gen
  mono : ∀ g' gen', lookup c.ownSK g' = some gen' → lookup sk g' = some gen'
  only_g : ∀ g', (lookup sk g').isSome = true → (lookup c.ownSK g').isSome = true ∨ g' = g

theorem OwnKey.isSome_mono {c : Client} {g : Nat} {sk : List (Nat × Nat)} {gen : Nat} (h : OwnKey c g sk gen) (g' : Nat)
    (hg : (lookup c.ownSK g').isSome = true) : (lookup sk g').isSome = true := by
  obtain ⟨gen', e⟩ := Option.isSome_iff_exists.mp hg
  rw [h.mono g' gen' e]
  rfl

theorem ownSenderKey_spec (s : Sys) (c : Client) (g : Nat) :
    ∃ sk gen s', ownSenderKey s c g = (s', { c with ownSK := sk }, gen) ∧ OwnKey c g sk gen ∧
      view s' = view s ∧ s'.nextCtr = s.nextCtr := by
  unfold ownSenderKey
  cases h : lookup c.ownSK g with
  | some gen => exact ⟨c.ownSK, gen, s, rfl, ⟨h, fun _ _ e => e, fun _ e => Or.inl e⟩, rfl, rfl⟩
  | none =>
    refine ⟨insert c.ownSK g s.nextGen, s.nextGen, _, rfl, ⟨by rw [lookup_insert, if_pos rfl], fun g' gen' e => ?_, fun g' e => ?_⟩,
      rfl, rfl⟩
    · rw [lookup_insert, if_neg (fun e' => by rw [e', h] at e; cases e)]
      exact e
    · rw [lookup_insert] at e
      by_cases hg : g' = g
      · exact Or.inr hg
      · rw [if_neg hg] at e; exact Or.inl e

theorem ownSenderKey_found {c : Client} {g gen : Nat} (h : lookup c.ownSK g = some gen) (s : Sys) :
    ownSenderKey s c g = (s, c, gen) := by
  unfold ownSenderKey
  rw [h]

theorem view_sendToContact (s : Sys) (a : Acct) (c : Client) (n : Node) (peer : Acct)
    (ha : a ∈ (view s).accounts) (hse : (lookup c.sessions peer).isSome = true) :
    ∃ ct, encryptFor c peer { skdm := none, content := some n.payload } s.nextCtr = some ct ∧
      view (sendToContact s a c n peer) =
        (view s).cstep a (enqueueSent c n) [.msg n.id n.dest none n.payload.isMedia [(none, ct)] none] (s.nextCtr + 1) := by
  obtain ⟨ct, hct⟩ := Option.isSome_iff_exists.mp ((encryptFor_isSome c peer _ s.nextCtr).trans hse)
  refine ⟨ct, hct, ?_⟩
  simp only [sendToContact, hct]
  rw [view_sendEnc _ _ _ _ _ _ (by exact ha)]
  rfl

theorem view_sgws_first (s : Sys) (a : Acct) (c : Client) (n : Node) (g : Nat) (need : List Acct) (ha : a ∈ (view s).accounts) :
    ∃ sk gen, OwnKey c g sk gen ∧
      view (sendToGroupWithSessions s a c n g need 0) =
        (view s).cstep a (enqueueSent { c with ownSK := sk } n)
          [.msg n.id n.dest none n.payload.isMedia
            ((encryptEach { c with ownSK := sk } { skdm := some (g, gen), content := none } s.nextCtr need).map
                (fun jc => (some jc.1, jc.2)) ++
              [(none, { kind := .skmsg, sess := gen, ctr := s.nextCtr + need.length,
                        plain := { skdm := none, content := some n.payload }, corrupt := false })]) none]
          (s.nextCtr + need.length + 1) := by
  obtain ⟨sk, gen, s', hos, hkey, hv, hctr⟩ := ownSenderKey_spec s c g
  refine ⟨sk, gen, hkey, ?_⟩
  have hacc : ∀ k, a ∈ (view { s' with nextCtr := k }).accounts := fun k => by
    show a ∈ (view s').accounts; rw [hv]; exact ha
  have heq : sendToGroupWithSessions s a c n g need 0 = sgTail a n g 0 none (sgFirst s c n g need 0 none) := by
    rw [sendToGroupWithSessions_eq]
    cases need with
    | nil => rfl
    | cons j t => cases t <;> rfl
  rw [heq]
  unfold sgFirst
  cases need with
  | nil =>
    simp only [List.isEmpty_nil, if_true, sgTail, hos]
    rw [view_sendEnc _ _ _ _ _ _ (hacc _), view_nextCtr, hv, hctr]
    rfl
  | cons j t =>
    -- the second call of `ownSenderKey` finds the key
    simp only [List.isEmpty_cons, Bool.false_eq_true, if_false, hos, sgTail, if_true,
      ownSenderKey_found (c := { c with ownSK := sk }) hkey.key]
    rw [view_sendEnc _ _ _ _ _ _ (hacc _), view_nextCtr, hv, hctr]
    rfl

theorem view_sgws_retry (s : Sys) (a : Acct) (c : Client) (n : Node) (g : Nat) (who : Acct) (cnt : Nat)
    (ha : a ∈ (view s).accounts) (hc : 1 ≤ cnt) (hse : (lookup c.sessions who).isSome = true) :
    ∃ sk gen ct, OwnKey c g sk gen ∧
      encryptFor c who { skdm := some (g, gen), content := some n.payload } s.nextCtr = some ct ∧
      view (sendToGroupWithSessions s a c n g [who] cnt) =
        (view s).cstep a { c with ownSK := sk } [.msg n.id n.dest (some who) n.payload.isMedia [(none, ct)] none]
          (s.nextCtr + 1) := by
  obtain ⟨sk, gen, s', hos, hkey, hv, hctr⟩ := ownSenderKey_spec s c g
  obtain ⟨ct, hct⟩ := Option.isSome_iff_exists.mp
    ((encryptFor_isSome c who { skdm := some (g, gen), content := some n.payload } s.nextCtr).trans hse)
  refine ⟨sk, gen, ct, hkey, hct, ?_⟩
  have hpos : cnt > 0 := hc
  have hne : ¬ cnt = 0 := Nat.ne_of_gt hc
  have hct' : encryptFor { c with ownSK := sk } who { skdm := some (g, gen), content := some n.payload } s'.nextCtr = some ct :=
    hctr ▸ hct
  rw [sendToGroupWithSessions_eq]
  unfold sgFirst
  simp only [hpos, if_true, List.isEmpty_cons, Bool.false_eq_true, if_false, hos, Option.isSome_some, sgTail, hne, encryptEach,
    hct', List.map_cons, List.map_nil]
  rw [view_sendEnc _ _ _ _ _ _ (by show a ∈ (view s').accounts; rw [hv]; exact ha), view_nextCtr, hv, hctr]
  rfl

/-- what `UpGood` and the count of unopened ciphertexts ask of a message stanza that goes out now -/
structure FreshMsg (lo k : Nat) (st : Stanza) : Prop where
  cts : CtsOK k st
  fresh : ∀ m ∈ ctrsOf st, lo ≤ m
  nodup : (ctrsOf st).Nodup
  shape : UpShape st

theorem freshMsg_single {lo : Nat} {id : Nat} {dest : Dest} {part : Option Acct} {im : Bool} {c : Client} {j : Acct} {plain : Plain}
    {ct : Ct} (henc : encryptFor c j plain lo = some ct) (hc : plain.content.isSome = true)
    (hd : match dest with | .user _ => part = none | .group _ => part.isSome = true) :
    FreshMsg lo (lo + 1) (.msg id dest part im [(none, ct)] none) := by
  obtain ⟨_, _, _, _, hk, hpl, hcor, hctr⟩ := encryptFor_spec henc
  rw [← hpl] at hc
  exact {
    cts := by
      intro e he
      cases List.mem_singleton.mp he
      exact ⟨hcor, by show ct.ctr < lo + 1; omega⟩
    fresh := by
      intro m hm
      cases List.mem_singleton.mp hm
      exact Nat.le_of_eq hctr.symm
    nodup := List.pairwise_singleton _ _
    shape := by
      cases dest with
      | user b => exact ⟨hd, ct, rfl, hk, hc⟩
      | group g =>
        cases part with
        | none => cases hd
        | some w => exact ⟨ct, rfl, hk, hc⟩ }

theorem freshMsg_group {lo len : Nat} {id g : Nat} {im : Bool} {c : Client} {plain : Plain} {l : List (Option Acct × Ct)}
    (gen : Nat) (pl : Payload) (hpl : plain.content = none)
    (hl : ∀ e ∈ l, e.1.isSome = true ∧ ∃ j n', lo ≤ n' ∧ n' < lo + len ∧ encryptFor c j plain n' = some e.2)
    (hnd : (l.map (fun e => e.2.ctr)).Nodup) :
    FreshMsg lo (lo + len + 1) (.msg id (.group g) none im
      (l ++ [(none, { kind := .skmsg, sess := gen, ctr := lo + len, plain := { skdm := none, content := some pl }, corrupt := false })])
      none) := by
  have hl' : ∀ e ∈ l, e.1.isSome = true ∧ e.2.kind ≠ .skmsg ∧ e.2.plain.content = none ∧ e.2.corrupt = false ∧
      lo ≤ e.2.ctr ∧ e.2.ctr < lo + len := by
    intro e he
    obtain ⟨p1, j, n', p2, p3, p4⟩ := hl e he
    obtain ⟨_, _, _, _, q1, q2, q3, q4⟩ := encryptFor_spec p4
    exact ⟨p1, q1, by rw [q2]; exact hpl, q3, by omega, by omega⟩
  exact {
    cts := by
      intro e he
      rcases List.mem_append.mp (show e ∈ l ++ [_] from he) with h1 | h1
      · obtain ⟨_, _, _, p4, p5, p6⟩ := hl' e h1
        exact ⟨p4, by omega⟩
      · cases List.mem_singleton.mp h1
        exact ⟨rfl, Nat.lt_succ_self _⟩
    fresh := by
      intro m hm
      obtain ⟨e, he, rfl⟩ := List.mem_map.mp (show m ∈ (l ++ [_]).map (fun (e : Option Acct × Ct) => e.2.ctr) from hm)
      rcases List.mem_append.mp he with h1 | h1
      · exact (hl' e h1).2.2.2.2.1
      · cases List.mem_singleton.mp h1
        exact Nat.le_add_right _ _
    nodup := by
      show ((l ++ [_]).map (fun (e : Option Acct × Ct) => e.2.ctr)).Nodup
      rw [List.map_append, List.nodup_append]
      refine ⟨hnd, List.pairwise_singleton _ _, ?_⟩
      intro a ha b hb e
      obtain rfl : b = lo + len := List.mem_singleton.mp hb
      obtain ⟨e', he', rfl⟩ := List.mem_map.mp ha
      have := (hl' e' he').2.2.2.2.2
      omega
    shape := ⟨l, _, rfl, rfl, rfl, fun e he => ⟨(hl' e he).1, (hl' e he).2.1, (hl' e he).2.2.1⟩⟩ }

/-- a message stanza for `n` went out (`sendEncEntities`): to all its recipients (`part = none`, the node enters the sent
    queue) or to one participant of a group -/
def MsgSent (s : Sys) (a : Acct) (c : Client) (n : Node) (part : Option Acct) (s' : Sys) : Prop :=
  ∃ sk encs k,
    view s' = (view s).cstep a (if part.isNone then enqueueSent { c with ownSK := sk } n else { c with ownSK := sk })
      [.msg n.id n.dest part n.payload.isMedia encs none] k ∧
    FreshMsg s.nextCtr k (.msg n.id n.dest part n.payload.isMedia encs none) ∧ s.nextCtr ≤ k ∧
    (∀ g, (lookup c.ownSK g).isSome = true → (lookup sk g).isSome = true) ∧
    ∀ g, n.dest = .group g → (lookup sk g).isSome = true

theorem sendToContact_sent {s : Sys} {a : Acct} {c : Client} {n : Node} {peer : Acct}
    (ha : a ∈ (view s).accounts) (hd : n.dest = .user peer) (hse : (lookup c.sessions peer).isSome = true) :
    MsgSent s a c n none (sendToContact s a c n peer) := by
  obtain ⟨ct, hct, hv⟩ := view_sendToContact s a c n peer ha hse
  exact ⟨c.ownSK, _, s.nextCtr + 1, hv, freshMsg_single hct rfl (by rw [hd]), Nat.le_succ _, fun _ h => h,
    fun g hg => by rw [hd] at hg; cases hg⟩

theorem sgws_first_sent {s : Sys} {a : Acct} {c : Client} {n : Node} {g : Nat} (need : List Acct)
    (ha : a ∈ (view s).accounts) (hd : n.dest = .group g) :
    MsgSent s a c n none (sendToGroupWithSessions s a c n g need 0) := by
  obtain ⟨sk, gen, hkey, hv⟩ := view_sgws_first s a c n g need ha
  obtain ⟨e1, e2, _⟩ := encryptEach_spec { c with ownSK := sk } { skdm := some (g, gen), content := none } need s.nextCtr
  refine ⟨sk, _, _, hv, ?_, by omega, hkey.isSome_mono, fun g' hg' => ?_⟩
  · rw [hd]
    refine freshMsg_group (c := { c with ownSK := sk }) (plain := { skdm := some (g, gen), content := none }) gen n.payload rfl
      (fun e he => ?_) (by rw [List.map_map]; exact e2)
    obtain ⟨jc, hjc, rfl⟩ := List.mem_map.mp he
    exact ⟨rfl, jc.1, e1 jc hjc⟩
  · rw [hd] at hg'; cases hg'
    rw [hkey.key]; rfl

theorem sgws_retry_sent {s : Sys} {a : Acct} {c : Client} {n : Node} {g : Nat} {who : Acct} {cnt : Nat}
    (ha : a ∈ (view s).accounts) (hd : n.dest = .group g) (hc : 1 ≤ cnt) (hse : (lookup c.sessions who).isSome = true) :
    MsgSent s a c n (some who) (sendToGroupWithSessions s a c n g [who] cnt) := by
  obtain ⟨sk, gen, ct, hkey, hct, hv⟩ := view_sgws_retry s a c n g who cnt ha hc hse
  refine ⟨sk, _, s.nextCtr + 1, hv, freshMsg_single hct rfl (by rw [hd]; rfl), Nat.le_succ _, hkey.isSome_mono, fun g' hg' => ?_⟩
  rw [hd] at hg'; cases hg'
  rw [hkey.key]; rfl

theorem processPlaintext_cases {P : Sys → Prop} (s : Sys) (a : Acct) (c : Client) (n : Node) (retry : Option (Acct × Nat))
    (hcontact : ∀ b, n.dest = .user b → (lookup c.sessions b).isSome = true → P (sendToContact s a c n b))
    (hkeys : ∀ b, n.dest = .user b → (lookup c.sessions b).isSome = false →
      P (sendIq s a c (fun iq => .getKeys iq [b]) (.keysForSend n)))
    (hinfo : ∀ g, n.dest = .group g → lookup c.ownSK g = none → P (sendIq s a c (fun iq => .getGroup iq g) (.groupInfo n)))
    (hfirst : ∀ g, n.dest = .group g → (lookup c.ownSK g).isSome = true → retry = none →
      P (sendToGroupWithSessions s a c n g [] 0))
    (hagain : ∀ g w cnt, n.dest = .group g → (lookup c.ownSK g).isSome = true → retry = some (w, cnt) →
      P (sendToGroupWithSessions s a c n g [w] cnt)) :
    P (processPlaintext s a c n retry) := by
  unfold processPlaintext
  cases hd : n.dest with
  | user b =>
    dsimp only
    by_cases hs : (lookup c.sessions b).isSome = true
    · rw [if_pos hs]; exact hcontact b hd hs
    · rw [if_neg hs]; exact hkeys b hd (Bool.eq_false_iff.mpr hs)
  | group g =>
    dsimp only
    unfold sendToGroup
    cases ho : lookup c.ownSK g with
    | none => exact hinfo g hd ho
    | some gen =>
      have ho' : (lookup c.ownSK g).isSome = true := by rw [ho]; rfl
      cases retry with
      | none => exact hfirst g hd ho' rfl
      | some p => exact hagain g p.1 p.2 hd ho' rfl

theorem ensureSessionsAndSend_cases {P : Sys → Prop} (s : Sys) (a : Acct) (c : Client) (n : Node) (g : Nat) (jids : List Acct)
    (hsend : (∀ j ∈ jids, (lookup c.sessions j).isSome = true) → P (sendToGroupWithSessions s a c n g jids 0))
    (hask : P (sendIq s a c (fun iq => .getKeys iq (jids.filter (fun j => (lookup c.sessions j).isNone)))
      (.keysForGroup n jids (jids.filter (fun j => (lookup c.sessions j).isNone))))) :
    P (ensureSessionsAndSend s a c n g jids) := by
  unfold ensureSessionsAndSend
  dsimp only
  by_cases he : (jids.filter (fun j => (lookup c.sessions j).isNone)).isEmpty = true
  · rw [if_pos he]
    refine hsend (fun j hj => ?_)
    have := List.filter_eq_nil_iff.mp (List.isEmpty_iff.mp he) j hj
    cases hl : lookup c.sessions j with
    | none => rw [hl] at this; exact absurd rfl this
    | some se => rfl
  · rw [if_neg he]; exact hask

end Yow.E2E
