/-
  What the server queues.  `serverProcess` is listed once, as the stanzas it queues and for whom (`served`,
  `serverProcess_eq`); in the view its step takes a stanza from a connection and queues that list (`view_process`).
  The token proof (E2ETokServer), decryptability (E2EDecServer) and the simulation (E2EFlatSim) all read it from here.
-/
import YowsupVerif.Lemmas.E2ETokInv
namespace Yow.E2E

def pushAll (s : Sys) (l : List (Acct × Stanza)) : Sys := l.foldl (fun acc p => push acc p.1 p.2) s

/-- `serverProcess` as the list of what it queues, and for whom; it does not depend on the queues -/
def served (reg : Acct → Bool) (mem : Nat → List Acct) (a : Acct) : Stanza → List (Acct × Stanza)
  | .msg id (.user b) _ im encs pl =>
    (a, .ack id 0) :: if reg b then [(b, .msg id (.user a) none im (encs.filter (fun e => e.1.isNone)) pl)] else []
  | .msg id (.group g) (some p) im encs pl =>
    (a, .ack id 0) :: if reg p then [(p, .msg id (.group g) (some a) im (encs.filter (fun e => e.1.isNone)) pl)] else []
  | .msg id (.group g) none im encs pl =>
    (a, .ack id 0) :: ((mem g).filter (· != a)).map fun m => (m, .msg id (.group g) (some a) im
      ((encs.filter (fun e => e.1 == some m)).map (fun e => (none, e.2)) ++ encs.filter (fun e => e.1.isNone)) pl)
  | .receipt id (.user b) _ t => (a, .ack id 1) :: if reg b then [(b, .receipt id (.user a) none t)] else []
  | .receipt id (.group g) (some p) t => (a, .ack id 1) :: if reg p then [(p, .receipt id (.group g) (some a) t)] else []
  | .receipt id (.group _) none _ => [(a, .ack id 1)]
  | .getKeys iq jids => [(a, .keys iq (jids.filter reg))]
  | .getGroup iq g => [(a, .groupInfo iq g (mem g))]
  | _ => []

theorem pushAll_frame : ∀ (l : List (Acct × Stanza)) (s : Sys),
    (pushAll s l).submitted = s.submitted ∧ (pushAll s l).faulted = s.faulted
  | [], _ => ⟨rfl, rfl⟩
  | p :: l, s => pushAll_frame l (push s p.1 p.2)

theorem pushAll_ack_fwd (s : Sys) (a b : Acct) (ack st : Stanza) :
    (if registered (push s a ack) b then push (push s a ack) b st else push s a ack) =
      pushAll s ((a, ack) :: if registered s b then [(b, st)] else []) := by
  by_cases h : registered s b = true
  · rw [if_pos (show registered (push s a ack) b = true from h), if_pos h]; rfl
  · rw [if_neg (show ¬ registered (push s a ack) b = true from h), if_neg h]; rfl

theorem serverProcess_eq (s : Sys) (a : Acct) (st : Stanza) :
    serverProcess s a st = pushAll s (served (registered s) (members s) a st) := by
  cases st with
  | msg id dest part im encs pl =>
    cases dest with
    | user b => exact pushAll_ack_fwd s a b _ _
    | group g =>
      cases part with
      | some p => exact pushAll_ack_fwd s a p _ _
      | none =>
        rw [show served _ _ a (.msg id (.group g) none im encs pl) = (a, .ack id 0) :: _ from rfl, pushAll, List.foldl_cons,
          List.foldl_map]
        rfl
  | receipt id peer part t =>
    cases peer with
    | user b => exact pushAll_ack_fwd s a b _ _
    | group g =>
      cases part with
      | some p => exact pushAll_ack_fwd s a p _ _
      | none => rfl
  | _ => rfl

theorem View.pushes_pushes (V : View) (f g : Acct → List Stanza) :
    (V.pushes f).pushes g = V.pushes (fun b => f b ++ g b) := by
  simp [View.pushes, List.append_assoc]

theorem View.pushes_nil (V : View) : V.pushes (fun _ => []) = V := by
  simp [View.pushes]

def single (x : Acct) (st : Stanza) : Acct → List Stanza := fun b => if b = x then [st] else []

@[simp] theorem sumMap_single (f : Stanza → Nat) (x : Acct) (st : Stanza) (b : Acct) :
    sumMap f (single x st b) = if b = x then f st else 0 := by
  unfold single; split <;> simp

theorem forall_single {P : Acct → Stanza → Prop} {x : Acct} {st : Stanza} (h : P x st) : ∀ b st', st' ∈ single x st b → P b st' := by
  intro b st' hm
  unfold single at hm
  split at hm
  · next e => cases List.mem_singleton.mp hm; exact e ▸ h
  · cases hm

def fan (targets : List Acct) (f : Acct → Stanza) : Acct → List Stanza := fun b => if b ∈ targets then [f b] else []

@[simp] theorem sumMap_fan (g : Stanza → Nat) (targets : List Acct) (f : Acct → Stanza) (b : Acct) :
    sumMap g (fan targets f b) = if b ∈ targets then g (f b) else 0 := by
  unfold fan; split <;> simp

theorem fan_of_mem {l : List Acct} {f : Acct → Stanza} {y : Acct} (h : y ∈ l) : fan l f y = [f y] := if_pos h
theorem fan_of_not_mem {l : List Acct} {f : Acct → Stanza} {y : Acct} (h : y ∉ l) : fan l f y = [] := if_neg h

theorem forall_fan {P : Acct → Stanza → Prop} {l : List Acct} {f : Acct → Stanza} (h : ∀ b ∈ l, P b (f b)) :
    ∀ b st', st' ∈ fan l f b → P b st' := by
  intro b st' hm
  unfold fan at hm
  split at hm
  · next e => cases List.mem_singleton.mp hm; exact h b e
  · cases hm

/-- the stanzas among `l` that are for `b` -/
def queuedFor (l : List (Acct × Stanza)) : Acct → List Stanza := fun b => (l.filter (·.1 == b)).map (·.2)

theorem queuedFor_cons (x : Acct) (st : Stanza) (l : List (Acct × Stanza)) :
    queuedFor ((x, st) :: l) = fun b => single x st b ++ queuedFor l b := by
  funext b
  unfold queuedFor single
  rw [List.filter_cons]
  by_cases hb : b = x
  · subst hb; simp
  · have : ¬ x = b := fun e => hb e.symm
    simp [hb, this]

theorem queuedFor_single (x : Acct) (st : Stanza) : queuedFor [(x, st)] = single x st :=
  (queuedFor_cons x st []).trans (funext fun _ => List.append_nil _)

theorem queuedFor_ack_fwd {reg : Acct → Bool} {t : Acct} (hreg : reg t = true) (a : Acct) (ack st : Stanza) :
    queuedFor ((a, ack) :: if reg t then [(t, st)] else []) = fun b => single a ack b ++ single t st b := by
  rw [if_pos hreg, queuedFor_cons, queuedFor_single]

theorem queuedFor_fan {l : List Acct} (hl : l.Nodup) (f : Acct → Stanza) : queuedFor (l.map fun m => (m, f m)) = fan l f := by
  funext b
  unfold queuedFor fan
  rw [List.filter_map, List.map_map, show ((fun p : Acct × Stanza => p.1 == b) ∘ fun m => (m, f m)) = (· == b) from rfl,
    filter_beq_nodup hl]
  split <;> simp

theorem view_pushAll (l : List (Acct × Stanza)) : ∀ s : Sys, view (pushAll s l) = (view s).pushes (queuedFor l) := by
  induction l with
  | nil => exact fun s => (View.pushes_nil _).symm
  | cons p l ih =>
    intro s
    obtain ⟨x, st⟩ := p
    show view (pushAll (push s x st) l) = _
    rw [ih, view_push, View.pushes_pushes, queuedFor_cons]
    rfl

theorem view_process (s : Sys) (a : Acct) (rest : List Stanza) (st : Stanza) :
    view (serverProcess { s with inbound := insert s.inbound a rest } a st) =
      ((view s).popIn a rest).pushes (queuedFor (served (registered s) (members s) a st)) := by
  rw [serverProcess_eq, view_pushAll, view_setInbound]
  rfl

theorem ShapeB_filter_direct {encs : List (Option Acct × Ct)} (m : Acct) (h : ShapeB (fun t => t.isSome = true) encs) :
    ShapeB (fun t => t = none)
      ((encs.filter (fun e => e.1 == some m)).map (fun e => (none, e.2)) ++ encs.filter (fun e => e.1.isNone)) := by
  obtain ⟨l, k, rfl, hk1, hk2, hl⟩ := h
  -- of the tagged distributions only those for `m` stay; the sender-key ciphertext is the one untagged entry
  have e0 : l.filter (fun e => e.1.isNone) = [] := by
    rw [List.filter_eq_nil_iff]
    intro e he h
    have := (hl e he).1
    rw [Option.isNone_iff_eq_none.mp h] at this
    cases this
  rw [List.filter_append, List.filter_append, e0, List.filter_cons_of_neg (by simp), List.filter_cons_of_pos rfl]
  refine ⟨(l.filter (fun e => e.1 == some m)).map (fun e => (none, e.2)), k, by simp, hk1, hk2, ?_⟩
  intro e he
  obtain ⟨e', he', rfl⟩ := List.mem_map.mp he
  have := hl e' (List.mem_filter.mp he').1
  exact ⟨rfl, this.2.1, this.2.2⟩

theorem ShapeA_filter_direct {encs : List (Option Acct × Ct)} (h : ShapeA encs) :
    encs.filter (fun e => e.1.isNone) = encs := by
  obtain ⟨ct, rfl, _, _⟩ := h
  simp


theorem mem_head {q : List (Acct × List Stanza)} {a : Acct} {st : Stanza} {rest : List Stanza} (hq : queueOf q a = st :: rest) :
    st ∈ queueOf q a := by
  rw [hq]; exact List.mem_cons_self

section
variable {accts : List Acct} {groups : List (Nat × List Acct)}

theorem members_nodup (hnd : ∀ g ∈ groups, g.2.Nodup) (g : Nat) : ((lookup groups g).getD []).Nodup := by
  cases hl : lookup groups g with
  | none => simp
  | some l => exact hnd (g, l) (lookup_mem hl)

theorem view_process_fan {s : Sys} {a : Acct} {rest : List Stanza} {id g : Nat} {im : Bool} {encs : List (Option Acct × Ct)}
    {pl : Option Payload} (hnd : ∀ g ∈ groups, g.2.Nodup) (hg : s.groups = groups) :
    view (serverProcess { s with inbound := insert s.inbound a rest } a (.msg id (.group g) none im encs pl)) =
      ((view s).popIn a rest).pushes (fun b => single a (.ack id 0) b ++ fan (((lookup groups g).getD []).filter (· != a))
        (fun m => .msg id (.group g) (some a) im
          ((encs.filter (fun e => e.1 == some m)).map (fun e => (none, e.2)) ++ encs.filter (fun e => e.1.isNone)) pl) b) := by
  subst hg
  rw [view_process]
  simp only [served]
  rw [queuedFor_cons, show members s g = (lookup s.groups g).getD [] from rfl,
    queuedFor_fan ((members_nodup hnd g).sublist List.filter_sublist)]

theorem view_process_receipt {s : Sys} {a : Acct} {rest : List Stanza} {id : Nat} {peer : Dest} {part : Option Acct} {t : RType}
    (hA : AInv accts groups (abs s)) (hq : queueOf s.inbound a = .receipt id peer part t :: rest) :
    ∃ a' n peer' part', (a', n) ∈ s.submitted ∧ n.id = id ∧
      view (serverProcess { s with inbound := insert s.inbound a rest } a (.receipt id peer part t))
        = ((view s).popIn a rest).pushes (fun b => single a (.ack id 1) b ++ single a' (.receipt id peer' part' t) b) ∧
      RecShape n peer' part' ∧ whoOf peer' part' = a ∧
      ((∃ g, peer' = .group g ∧ part' = some a) ∨ (peer' = .user a ∧ part' = none)) := by
  obtain ⟨_, ⟨a', n, hn1, hn2, hn3, horig⟩, _⟩ := hA.inb_ok a _ (mem_head hq)
  have hreg : registered s a' = true := (hA.reg a').mpr (hA.sub_reg a' n hn1).1
  unfold Origin at horig
  split at horig
  · next b hb =>
    obtain ⟨rfl, rfl⟩ := horig
    have hab : a = b := by simpa [intendedG, hb] using hn3
    subst hab
    exact ⟨a', n, .user a, none, hn1, hn2, by rw [view_process]; simp only [served]; rw [queuedFor_ack_fwd hreg], by simp [RecShape, hb], rfl,
      Or.inr ⟨rfl, rfl⟩⟩
  · next g hg =>
    obtain ⟨rfl, rfl⟩ := horig
    exact ⟨a', n, .group g, some a, hn1, hn2, by rw [view_process]; simp only [served]; rw [queuedFor_ack_fwd hreg], by simp [RecShape, hg], rfl,
      Or.inl ⟨g, rfl, rfl⟩⟩

end

end Yow.E2E
