/-
  The server's step keeps the token invariant: what it queues (E2ETokServed), stanza form by stanza form, under the
  master lemma of the server step (E2ETokStep).
-/
import YowsupVerif.Lemmas.E2ETokStep
import YowsupVerif.Lemmas.E2ETokServed
namespace Yow.E2E

theorem registered_iff {accts : List Acct} {groups : List (Nat × List Acct)} {s : Sys} (h : AInv accts groups (abs s)) (b : Acct) :
    registered s b = true ↔ b ∈ accts := h.reg b

theorem CtsOK_of_sub {k : Nat} {st st' : Stanza} (h : CtsOK k st) (hs : ∀ e ∈ ctsOf st', ∃ e' ∈ ctsOf st, e'.2 = e.2) : CtsOK k st' := by
  intro e he
  obtain ⟨e', he', heq⟩ := hs e he
  rw [← heq]
  exact h e' he'

section Server
variable {ex : Bool} {accts : List Acct} {groups : List (Nat × List Acct)}

theorem DownGood.of_noCts {V : View} {b : Acct} {st : Stanza} (hdir : downDir st) (hcts : ctsOf st = []) (hshape : DownShape st)
    (hnr : ∀ id p q t, st ≠ .receipt id p q t) : DownGood V b st where
  dir := hdir
  cts := fun e he => by rw [hcts] at he; cases he
  shape := hshape
  rcpt := fun id p q t e => absurd e (hnr id p q t)

theorem DownGood.ack (V : View) (b : Acct) (id cls : Nat) : DownGood V b (.ack id cls) :=
  .of_noCts trivial rfl trivial (fun _ _ _ _ e => by cases e)

/-- a 1:1 message, or the retry of a group message for one participant `p` -/
theorem sv_msg_one {s : Sys} {a p : Acct} {rest : List Stanza} {n : Node} {dest dest' : Dest} {part part' : Option Acct} {im : Bool}
    {encs : List (Option Acct × Ct)} {pl : Option Payload} (hn : accts.Nodup)
    (hA : AInv accts groups (abs s)) (hT : TV ex accts groups s.submitted (view s))
    (hq : queueOf s.inbound a = .msg n.id dest part im encs pl :: rest) (ha : a ∈ accts) (hn1 : (a, n) ∈ s.submitted)
    (hshape : ShapeA encs) (hpa : p ≠ a)
    (hpart : ∀ r, r ∈ intendedG groups a n → ((part = none ∨ part = some r) ↔ r = p))
    (hguard : ∀ r, upGuard groups r (.msg n.id dest part im encs pl) = true)
    (hcts : ∀ r, ctsFor r (.msg n.id dest part im encs pl) = if p = r then (encs.filter (fun e => e.1.isNone)).map Prod.snd else []) :
    TV ex accts groups s.submitted (((view s).popIn a rest).pushes
      (fun b => single a (.ack n.id 0) b ++ single p (.msg n.id dest' part' im encs pl) b)) :=
  TV.server_step hn hT {
    hx := ha
    hq := hq
    good_add := forall_append (forall_single (DownGood.ack _ _ _ _)) (forall_single
      { dir := trivial, cts := (hT.ups a _ (mem_head hq)).cts, shape := Or.inl hshape, rcpt := fun _ _ _ _ e => by cases e })
    cons := by
      intro a' n' hn' r hr
      simp only [sumMap_append, sumMap_single, downTok, retryDownTok, upTok, retryUpTok]
      by_cases hid : n.id = n'.id
      · obtain ⟨rfl, rfl⟩ := sub_unique hA hn1 hn' hid
        simp [hpart r hr]
      · simp [hid]
    rcons := by
      intro a' n' hn' r hr
      simp [rcptOut, rcptIn, deliveryReceiptFrom]
    ans := fun e he hiq => by cases hiq
    unop := by
      intro r hr x
      simp only [sumMap_append, sumMap_single, nOf_ack, upN, hguard r, if_true, hcts r, ShapeA_filter_direct hshape]
      by_cases hra : r = a
      · subst hra
        have : ¬ r = p := fun e => hpa e.symm
        simp [this]
      · have hra' : a ≠ r := fun e => hra e.symm
        by_cases hrp : r = p
        · subst hrp; simp [hra', nOf, ctrsOf, ctsOf, List.map_map, Function.comp_def]
        · have : ¬ p = r := fun e => hrp e.symm
          simp [hra, hrp, this] }

theorem sv_msg_group_none {s : Sys} {a : Acct} {rest : List Stanza} {id g : Nat} {im : Bool}
    {encs : List (Option Acct × Ct)} {pl : Option Payload} (hn : accts.Nodup) (hnd : ∀ g ∈ groups, g.2.Nodup)
    (hA : AInv accts groups (abs s)) (hT : TV ex accts groups s.submitted (view s))
    (hq : queueOf s.inbound a = .msg id (.group g) none im encs pl :: rest) :
    TV ex accts groups s.submitted
      (view (serverProcess { s with inbound := insert s.inbound a rest } a (.msg id (.group g) none im encs pl))) := by
  obtain ⟨ha, ⟨_, n, hn1, hn2, hn3, _, _⟩, _⟩ := hA.inb_ok a _ (mem_head hq)
  have hug := hT.ups a _ (mem_head hq)
  have hshape : ShapeB (fun t => t.isSome = true) encs := hug.shape
  have hint : intendedG groups a n = ((lookup groups g).getD []).filter (· != a) := by simp [intendedG, hn3]
  rw [view_process_fan hnd hA.grp]
  exact TV.server_step hn hT {
    hx := ha
    hq := hq
    good_add := forall_append (forall_single (DownGood.ack _ _ _ _)) (forall_fan fun x _ => {
      dir := trivial
      shape := Or.inr ⟨rfl, ShapeB_filter_direct x hshape⟩
      rcpt := fun _ _ _ _ e => by cases e
      cts := fun e he => by
        have he : e ∈ (encs.filter (fun e => e.1 == some x)).map (fun e => (none, e.2)) ++ encs.filter (fun e => e.1.isNone) := he
        rcases List.mem_append.mp he with h2 | h2
        · obtain ⟨e', he', rfl⟩ := List.mem_map.mp h2
          exact hug.cts e' (List.mem_filter.mp he').1
        · exact hug.cts e (List.mem_filter.mp h2).1 })
    cons := by
      intro a' n' hn' r hr
      simp only [sumMap_append, sumMap_single, sumMap_fan, downTok, retryDownTok, upTok, retryUpTok]
      by_cases hid : id = n'.id
      · obtain ⟨rfl, rfl⟩ := sub_unique hA hn1 hn' (hn2.trans hid)
        rw [hint] at hr
        simp [hid, hr]
      · simp [hid]
    rcons := by
      intro a' n' hn' r hr
      simp [rcptOut, rcptIn, deliveryReceiptFrom]
    ans := fun e he hiq => by cases hiq
    unop := by
      intro r hr x
      simp only [sumMap_append, sumMap_single, sumMap_fan, nOf, ctrsOf, ctsOf]
      by_cases hra : r = a
      · subst hra
        simp
      · have hra' : a ≠ r := fun e => hra e.symm
        simp only [hra, if_false, Nat.zero_add, hra', ne_eq, not_false_eq_true, if_true, upN, upGuard, isMsg, Bool.true_and, ctsFor,
          List.mem_filter, bne_iff_ne, and_true, List.contains_eq_mem, decide_eq_true_eq]
        split
        · rw [List.map_append, List.map_map, List.map_map, List.count_append]
          exact (count_filter_or encs (fun e => e.1 == some r) (fun e => e.1.isNone) (fun e => e.2.ctr) x
            (fun e _ ⟨h1, h2⟩ => by rw [beq_iff_eq.mp h1] at h2; cases h2)).symm
        · rfl }

theorem sv_receipt {s : Sys} {a : Acct} {rest : List Stanza} {id : Nat} {peer : Dest} {part : Option Acct} {t : RType}
    (hn : accts.Nodup)
    (hA : AInv accts groups (abs s)) (hT : TV ex accts groups s.submitted (view s))
    (hq : queueOf s.inbound a = .receipt id peer part t :: rest) :
    TV ex accts groups s.submitted
      (view (serverProcess { s with inbound := insert s.inbound a rest } a (.receipt id peer part t))) := by
  have ha := (hA.inb_ok a _ (mem_head hq)).1
  have hug := hT.ups a _ (mem_head hq)
  obtain ⟨a', n, peer', part', hn1, hn2, hview, hrs, hwho, hform⟩ := view_process_receipt hA hq
  rw [hview]
  have hrd : ∀ id' r, retryDownTok id' r (.receipt id peer' part' t) = if a = r then retryUpTok id' (.receipt id peer part t) else 0 := by
    intro id' r
    cases t with
    | delivery => simp [retryDownTok, retryUpTok]
    | retry c => rcases hform with ⟨g, rfl, rfl⟩ | ⟨rfl, rfl⟩ <;> simp [retryDownTok, retryUpTok, ite_and_swap]
  have hro : ∀ id' r, rcptOut id' r (.receipt id peer' part' t) = if a = r then rcptIn id' (.receipt id peer part t) else 0 := by
    intro id' r
    rcases hform with ⟨g, rfl, rfl⟩ | ⟨rfl, rfl⟩ <;> cases t <;> simp [rcptOut, rcptIn, deliveryReceiptFrom, ite_and_swap]
  -- a receipt for a message of `a'` is none for the message of anyone else
  have hidn : ∀ a'' n', (a'', n') ∈ s.submitted → a'' ≠ a' →
      retryUpTok n'.id (.receipt id peer part t) = 0 ∧ rcptIn n'.id (.receipt id peer part t) = 0 := by
    intro a'' n' hn' hne
    have hne' : id ≠ n'.id := fun e => hne (sub_unique hA hn' hn1 (by rw [hn2, e])).1
    cases t <;> simp [retryUpTok, rcptIn, deliveryReceiptFrom, hne']
  -- what goes back to the sender `a''` of a message counts if the receipt is for that sender, and for the origin `a` only
  have hback : ∀ (U : Nat) (a'' r : Acct), (a'' ≠ a' → U = 0) →
      (if a'' = a' then (if a = r then U else 0) else 0) = if r = a then U else 0 := by
    intro U a'' r h0
    by_cases haa : a'' = a'
    · rw [if_pos haa]
      by_cases hra : r = a
      · rw [if_pos hra, if_pos hra.symm]
      · rw [if_neg hra, if_neg fun e => hra e.symm]
    · rw [if_neg haa, h0 haa, ite_self]
  exact TV.server_step hn hT {
    hx := ha
    hq := hq
    good_add := forall_append (forall_single (DownGood.ack _ _ _ _)) (forall_single {
      dir := trivial
      cts := fun e he => by cases he
      shape := trivial
      rcpt := fun id0 peer0 part0 t0 e => by
        cases e
        refine ⟨⟨n, hn1, hn2, hrs⟩, ?_, ?_⟩
        · intro ht; subst ht; rw [hwho]; exact hug.honest _ _ _ rfl
        · intro c ht; subst ht; exact hug.retry _ _ _ _ rfl })
    cons := by
      intro a'' n' hn' r hr
      simp only [sumMap_append, sumMap_single, hrd, downTok, upTok, retryDownTok_ack, ite_self, Nat.zero_add]
      exact hback _ a'' r fun h => (hidn a'' n' hn' h).1
    rcons := by
      intro a'' n' hn' r hr
      simp only [sumMap_append, sumMap_single, hro, rcptOut_ack, ite_self, Nat.zero_add]
      exact hback _ a'' r fun h => (hidn a'' n' hn' h).2
    ans := fun e he hiq => by cases hiq
    unop := by
      intro r hr x
      simp [nOf, ctrsOf, ctsOf, upN, upGuard, isMsg] }

theorem sv_plain {s : Sys} {a : Acct} {rest : List Stanza} {st : Stanza} {replies : List Stanza} (hn : accts.Nodup)
    (hA : AInv accts groups (abs s)) (hT : TV ex accts groups s.submitted (view s))
    (hq : queueOf s.inbound a = st :: rest)
    (hz : ∀ id r, upTok id r st = 0 ∧ retryUpTok id st = 0 ∧ rcptIn id st = 0 ∧ upN groups r id st = 0)
    (hgood : ∀ x ∈ replies, DownGood (view s) a x ∧
      ∀ id r, downTok id x = 0 ∧ retryDownTok id r x = 0 ∧ rcptOut id r x = 0 ∧ nOf id x = 0)
    (hans : ∀ iq, stanzaIq st = some iq → ∃ x ∈ replies, stanzaIq x = some iq) :
    TV ex accts groups s.submitted (((view s).popIn a rest).pushes (fun b => if b = a then replies else [])) := by
  have hzero : ∀ (f : Stanza → Nat) (b : Acct), (∀ x ∈ replies, f x = 0) → sumMap f (if b = a then replies else []) = 0 := by
    intro f b hf
    split
    · exact sumMap_eq_zero hf
    · rfl
  exact TV.server_step hn hT {
    hx := (hA.inb_ok a _ (mem_head hq)).1
    hq := hq
    good_add := by
      intro b x hx
      split at hx
      · next e => subst e; exact (hgood x hx).1
      · cases hx
    cons := by
      intro a' n' hn' r hr
      rw [hzero _ r (fun x hx => ((hgood x hx).2 n'.id r).1), hzero _ a' (fun x hx => ((hgood x hx).2 n'.id r).2.1),
        (hz n'.id r).1, (hz n'.id r).2.1]
      simp
    rcons := by
      intro a' n' hn' r hr
      rw [hzero _ a' (fun x hx => ((hgood x hx).2 n'.id r).2.2.1), (hz n'.id r).2.2.1]
      simp
    ans := fun e he hiq => by rw [if_pos rfl]; exact hans e.1 hiq
    unop := by
      intro r hr x
      rw [hzero _ r (fun y hy => ((hgood y hy).2 x r).2.2.2), (hz x r).2.2.2]
      simp }

theorem serverProcess_TV (hn : accts.Nodup) (hnd : ∀ g ∈ groups, g.2.Nodup) {s : Sys} {a : Acct} {st : Stanza} {rest : List Stanza}
    (hA : AInv accts groups (abs s)) (hT : TV ex accts groups s.submitted (view s))
    (hq : queueOf s.inbound a = st :: rest) :
    TV ex accts groups s.submitted (view (serverProcess { s with inbound := insert s.inbound a rest } a st)) := by
  have hug := hT.ups a _ (mem_head hq)
  cases st with
  | msg id dest part im encs pl =>
    obtain ⟨ha, ⟨_, n, hn1, rfl, hn3, _, hpi⟩, _⟩ := hA.inb_ok a _ (mem_head hq)
    have hreg : ∀ r, r ∈ intendedG groups a n → registered s r = true :=
      fun r hr => (hA.reg r).mpr ((hA.sub_reg a n hn1).2 r hr)
    cases dest with
    | user b =>
      obtain ⟨rfl, hshape⟩ : part = none ∧ ShapeA encs := hug.shape
      have hint : intendedG groups a n = [b] := by simp [intendedG, hn3]
      have hbi : b ∈ intendedG groups a n := by rw [hint]; exact List.mem_singleton_self b
      rw [view_process]
      simp only [served]
      rw [queuedFor_ack_fwd (hreg b hbi), ShapeA_filter_direct hshape]
      refine sv_msg_one hn hA hT hq ha hn1 hshape (hT.neq a n hn1 b hbi) ?_ (fun _ => rfl) (fun _ => rfl)
      intro r hr
      rw [hint] at hr
      simp [List.mem_singleton.mp hr]
    | group g =>
      cases part with
      | none => exact sv_msg_group_none hn hnd hA hT hq
      | some p =>
        have hshape : ShapeA encs := hug.shape
        rw [view_process]
        simp only [served]
        rw [queuedFor_ack_fwd (hreg p (hpi p rfl)), ShapeA_filter_direct hshape]
        refine sv_msg_one hn hA hT hq ha hn1 hshape (hT.neq a n hn1 p (hpi p rfl)) ?_ (fun _ => rfl) (fun _ => rfl)
        intro r _
        simp [eq_comm]
  | receipt id peer part t => exact sv_receipt hn hA hT hq
  | ack id cls =>
    rw [view_process, show queuedFor (served _ _ a (.ack id cls)) = fun b => if b = a then [] else [] from
      funext fun _ => (ite_self _).symm]
    exact sv_plain (replies := []) hn hA hT hq (fun _ _ => ⟨rfl, rfl, rfl, rfl⟩) (fun x hx => by cases hx) (fun iq e => by cases e)
  | keys _ _ | groupInfo _ _ _ => exact absurd hug.dir (by simp [upDir])
  | getKeys _ _ | getGroup _ _ =>
    rw [view_process]
    simp only [served, queuedFor_single]
    refine sv_plain (replies := [_]) hn hA hT hq (fun _ _ => ⟨rfl, rfl, rfl, rfl⟩) ?_ (fun iq e => ⟨_, List.mem_singleton_self _, e⟩)
    intro x hx
    rw [List.mem_singleton.mp hx]
    exact ⟨.of_noCts trivial rfl trivial (fun _ _ _ _ e => by cases e), fun _ _ => ⟨rfl, rfl, rfl, rfl⟩⟩

theorem process_TInv (hw : WFConfig accts groups) (hnd : ∀ g ∈ groups, g.2.Nodup) {s : Sys} {a : Acct}
    (h : TInv ex accts groups s) (hall : Allowed s (.process a) = true) : TInv ex accts groups (step s (.process a)) := by
  refine ⟨step_inv h.1 hall, ?_⟩
  simp only [step]
  split
  · exact h.2
  · next st rest heq =>
    rw [show (serverProcess { s with inbound := insert s.inbound a rest } a st).submitted = s.submitted from
      serverProcess_eq _ a st ▸ (pushAll_frame _ _).1]
    exact serverProcess_TV hw.1 hnd h.1 h.2 heq

end Server
end Yow.E2E
