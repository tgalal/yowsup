/-
  When the answer to a query arrives and its continuation is taken out of the registry, the client holds the token that
  continuation kept (`Src.ofCont`, by `contS_erase`).
-/
import YowsupVerif.Lemmas.E2ETokSend
namespace Yow.E2E

/-- the fields of a client record the invariant reads, apart from `iqReg` -/
structure SameBut (c c1 : Client) : Prop where
  pend : c1.pendingIn = c.pendingIn
  shown : c1.shown = c.shown
  seen : c1.seen = c.seen
  seenSK : c1.seenSK = c.seenSK
  receipts : c1.receipts = c.receipts
  ownSK : c1.ownSK = c.ownSK
  sentQ : c1.sentQueue = c.sentQueue
  nextIq : c1.nextIq = c.nextIq

theorem SameBut.rfl' (c : Client) : SameBut c c := ⟨rfl, rfl, rfl, rfl, rfl, rfl, rfl, rfl⟩

theorem SameBut.trans {c c1 c2 : Client} (h1 : SameBut c c1) (h2 : SameBut c1 c2) : SameBut c c2 :=
  ⟨h2.pend.trans h1.pend, h2.shown.trans h1.shown, h2.seen.trans h1.seen, h2.seenSK.trans h1.seenSK,
   h2.receipts.trans h1.receipts, h2.ownSK.trans h1.ownSK, h2.sentQ.trans h1.sentQ, h2.nextIq.trans h1.nextIq⟩

section
variable {ex : Bool} {accts : List Acct} {groups : List (Nat × List Acct)}

theorem contS_erase {l : List (Nat × Cont)} (hn : keysNodup l) {iq : Nat} {k0 : Cont} (hl : lookup l iq = some k0) (id : Nat) (r : Acct) :
    contS id r (erase l iq) + contTok id r k0 = contS id r l := by
  have := sumMap_erase hn (fun e => contTok id r e.2) iq
  rw [hl] at this
  exact this

theorem slotS_erase {l : List (Nat × Cont)} (hn : keysNodup l) {iq : Nat} {k0 : Cont} (hl : lookup l iq = some k0) (i : Nat) :
    slotS i (erase l iq) + slotTok i k0 = slotS i l := by
  have := sumMap_erase hn (fun e => slotTok i e.2) iq
  rw [hl] at this
  exact this

theorem Src.ofCont {s : Sys} {x : Acct} {hd : Stanza} {rest : List Stanza} {iq : Nat} {k0 : Cont} {n : Node} {who : Option Acct}
    {c1 : Client}
    (hA : AInv accts groups (abs s)) (hT : TV ex accts groups s.submitted (view s)) (hx : x ∈ accts)
    (hq : (view s).outb x = hd :: rest) (hiq : stanzaIq hd = some iq)
    (hplain : ∀ id r, downTok id hd = 0 ∧ nOf id hd = 0 ∧ rcptOut id r hd = 0 ∧ retryDownTok id r hd = 0)
    (hk0 : lookup (getClient s x).iqReg iq = some k0) (hnode : contNode k0 = some (n, who))
    (hsame : SameBut (getClient s x) c1) (hreg : c1.iqReg = erase (getClient s x).iqReg iq) :
    Src accts groups s.submitted (view s) x [hd] rest c1 n who := by
  have hcg : ClientGood (view s).nextCtr (getClient s x) := hT.clients x
  have hmem0 : (iq, k0) ∈ (getClient s x).iqReg := lookup_mem hk0
  have hcont : ContOK accts groups s.submitted x k0 := (hA.client x).conts iq k0 hmem0
  obtain ⟨hnsub, _⟩ := contNode_sub hnode hcont
  have hrd : ∀ id r, sumMap (retryDownTok id r) [hd] = 0 := by
    intro id r; simp [(hplain id r).2.2.2]
  -- the entry registered under `iq` is `k0`
  have hkey : ∀ e ∈ (getClient s x).iqReg, e.1 = iq → e.2 = k0 := by
    intro e he hei
    have := lookup_of_mem hcg.iqKeys he
    rw [hei] at this
    exact Option.some.inj (this.symm.trans hk0)
  -- the fields of the record that stay are those of `hsame`
  exact { hsame with
    hx := hx
    hq := hq
    uniq := fun n' hn' e => ((sub_unique hA hn' hnsub e).2)
    cons_plain := List.forall_mem_singleton.mpr (fun id r => ⟨(hplain id r).1, (hplain id r).2.1, (hplain id r).2.2.1⟩)
    conts := by
      intro e he
      rw [hreg] at he
      exact hcg.conts e (mem_erase he)
    iqKeys := by rw [hreg]; exact keysNodup_erase iq hcg.iqKeys
    iq_lt := by
      intro e he
      rw [hreg] at he
      rw [hsame.nextIq]
      exact (hA.client x).iq_lt e.1 e.2 (mem_erase he)
    tok := by
      intro n' _ r _
      rw [hrd, hreg, ← contNode_tok hnode]
      have := contS_erase hcg.iqKeys hk0 n'.id r
      show contS n'.id r (erase (getClient s x).iqReg iq) + _ = contS n'.id r (getClient s x).iqReg + 0
      omega
    slot := by
      intro i
      have h1 := hT.slots x i
      have h2 := slotS_erase hcg.iqKeys hk0 i
      unfold sendSlots at h1 ⊢
      rw [hreg, hsame.sentQ, ← contNode_slot hnode]
      have : (view s).cl x = getClient s x := rfl
      rw [this] at h1
      omega
    iq_sub := by
      intro e he
      rw [hreg] at he
      obtain ⟨h1, h2⟩ := mem_erase_iff.mp he
      exact ⟨h1, List.forall_mem_singleton.mpr (fun e' => h2 (Option.some.inj (hiq.symm.trans e')).symm)⟩
    pend_ok := by
      intro e he
      obtain ⟨k, hk, hkk⟩ := (hT.ans x).2 e he
      refine ⟨k, ?_, hkk⟩
      rw [hreg]
      refine mem_erase_iff.mpr ⟨hk, ?_⟩
      intro e'
      rw [← hkey k hk e', hkk] at hnode
      cases hnode
    kept := by
      intro n' hn' r hr
      rw [hrd, hsame.sentQ]
      exact hT.kept x n' hn' r hr
    kept_hand := by
      intro hn' r hr hh
      rw [hrd]
      have h1 := hT.cons x n hn' r hr
      rw [tokensV_eq] at h1
      have h2 : contTok n.id r k0 ≤ contS n.id r ((view s).cl x).iqReg :=
        sumMap_le_of_mem (f := fun e => contTok n.id r e.2) hmem0
      rw [contNode_tok hnode, hh] at h2
      omega
    ret3 := by
      intro n' hn' g hg
      rw [hsame.ownSK]
      rcases hT.ret3 x n' hn' g hg with h1 | ⟨e, he, hf⟩
      · exact Or.inl h1
      · by_cases hei : e.1 = iq
        · rw [hkey e he hei] at hf
          obtain ⟨f1, f2⟩ := contNode_first hnode hf
          exact Or.inr (Or.inr ⟨f1.symm, f2⟩)
        · exact Or.inr (Or.inl ⟨e, by rw [hreg]; exact mem_erase_iff.mpr ⟨he, hei⟩, hf⟩)
    retq := by
      intro e he n' w c hc hg
      rw [hreg] at he
      rw [hsame.sentQ]
      exact hT.retq x e (mem_erase he) n' w c hc hg }

end

end Yow.E2E
