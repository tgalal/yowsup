/-
  The two master lemmas of token conservation, over the deltas of E2ETokDelta.  A client step (consume stanzas queued
  for `x`, change `x`'s record, emit stanzas) and a server step (consume a stanza from `x`'s connection, queue stanzas)
  preserve the invariant `TV` when a list of local conditions on what was consumed and produced holds.
-/
import YowsupVerif.Lemmas.E2ETokDelta
namespace Yow.E2E

theorem sub_unique {accts : List Acct} {groups : List (Nat × List Acct)} {s : Sys} (hA : AInv accts groups (abs s)) {a a' : Acct} {n n' : Node}
    (h1 : (a, n) ∈ s.submitted) (h2 : (a', n') ∈ s.submitted) (e : n.id = n'.id) : a = a' ∧ n = n' :=
  hA.sub_ids a n a' n' h1 h2 e

theorem CtsOK.mono {k k' : Nat} {st : Stanza} (hk : k ≤ k') (h : CtsOK k st) : CtsOK k' st :=
  fun e he => ⟨(h e he).1, Nat.lt_of_lt_of_le (h e he).2 hk⟩

theorem UpGood.mono {k k' : Nat} {c c' : Client} {st : Stanza} (hk : k ≤ k') (hs : ∀ id, shownC c id ≤ shownC c' id)
    (h : UpGood k c st) : UpGood k' c' st where
  dir := h.dir
  cts := h.cts.mono hk
  shape := h.shape
  honest id peer part e := Nat.le_trans (h.honest id peer part e) (hs id)
  retry := h.retry

theorem ParkGood.mono {k k' : Nat} {key : Dest × Option Acct} {st : Stanza} (hk : k ≤ k') (h : ParkGood k key st) :
    ParkGood k' key st := ⟨h.1, h.2.1.mono hk, h.2.2⟩

theorem ClientGood.mono {k k' : Nat} {c : Client} (hk : k ≤ k') (h : ClientGood k c) : ClientGood k' c where
  seen e he := Nat.lt_of_lt_of_le (h.seen e he) hk
  seenSK e he := Nat.lt_of_lt_of_le (h.seenSK e he) hk
  conts := h.conts
  iqKeys := h.iqKeys
  pendKeys := h.pendKeys
  parked e he st hst := (h.parked e he st hst).mono hk

theorem DownGood.mono {V V' : View} {a : Acct} {st : Stanza} (hle : V.le V') (h : DownGood V a st) : DownGood V' a st where
  dir := h.dir
  cts := h.cts.mono hle.1
  shape := h.shape
  rcpt id peer part t e := by
    obtain ⟨⟨n, h1, h2, h3⟩, h4, h5⟩ := h.rcpt id peer part t e
    exact ⟨⟨n, hle.2.2 _ h1, h2, h3⟩, fun ht => Nat.le_trans (h4 ht) (hle.2.1 _ _), h5⟩

theorem nOf_eq_zero {k n : Nat} {st : Stanza} (h : CtsOK k st) (hn : k ≤ n) : nOf n st = 0 := by
  unfold nOf ctrsOf
  rw [List.count_eq_zero]
  intro hm
  obtain ⟨e, he, rfl⟩ := List.mem_map.mp hm
  have := (h e he).2
  omega

theorem ctsFor_sub {r : Acct} {st : Stanza} {ct : Ct} (h : ct ∈ ctsFor r st) : ∃ e ∈ ctsOf st, e.2 = ct := by
  unfold ctsFor at h
  split at h
  · split at h
    · obtain ⟨e, he, rfl⟩ := List.mem_map.mp h
      exact ⟨e, (List.mem_filter.mp he).1, rfl⟩
    · cases h
  · split at h
    · obtain ⟨e, he, rfl⟩ := List.mem_map.mp h
      exact ⟨e, (List.mem_filter.mp he).1, rfl⟩
    · cases h
  · obtain ⟨e, he, rfl⟩ := List.mem_map.mp h
    exact ⟨e, (List.mem_filter.mp he).1, rfl⟩
  · cases h

theorem upN_eq_zero {groups : List (Nat × List Acct)} {r : Acct} {k n : Nat} {st : Stanza} (h : CtsOK k st) (hn : k ≤ n) :
    upN groups r n st = 0 := by
  unfold upN
  split
  · rw [List.count_eq_zero]
    intro hm
    obtain ⟨ct, hct, rfl⟩ := List.mem_map.mp hm
    obtain ⟨e, he, rfl⟩ := ctsFor_sub hct
    have := (h e he).2
    omega
  · rfl

theorem wayV_eq_zero {accts : List Acct} {groups : List (Nat × List Acct)} {L : List (Acct × Node)} {V : View}
    {ex : Bool} (h : TV ex accts groups L V) (r : Acct) {n : Nat} (hn : V.nextCtr ≤ n) : wayV accts V r n = 0 := by
  unfold wayV pendN
  have h1 : sumMap (nOf n) (V.outb r) = 0 := sumMap_eq_zero (fun st hst => nOf_eq_zero (h.downs r st hst).cts hn)
  have h2 : sumMap (fun e => sumMap (nOf n) e.2) (V.cl r).pendingIn = 0 :=
    sumMap_eq_zero (fun e he => sumMap_eq_zero (fun st hst => nOf_eq_zero ((h.clients r).parked e he st hst).2.1 hn))
  have h3 : sumMap (fun a => if a = r then 0 else sumMap (upN V.groups r n) (V.inb a)) accts = 0 := by
    apply sumMap_eq_zero
    intro a _
    split
    · rfl
    · exact sumMap_eq_zero (fun st hst => upN_eq_zero (h.ups a st hst).cts hn)
  omega

/-- the local conditions of a client step, those on the receipts apart (`CStepOK` adds them) -/
structure CStepOKc (accts : List Acct) (groups : List (Nat × List Acct)) (L : List (Acct × Node)) (V : View) (x : Acct)
    (cons rest : List Stanza) (c' : Client) (out : List Stanza) (k : Nat) : Prop where
  hx : x ∈ accts
  hq : V.outb x = cons ++ rest
  hk : V.nextCtr ≤ k
  shown_mono : ∀ id, shownC (V.cl x) id ≤ shownC c' id
  good_c : ClientGood k c'
  good_out : ∀ st ∈ out, UpGood k c' st
  cons_S : ∀ n, (x, n) ∈ L → ∀ r, r ∈ intendedG groups x n →
    contS n.id r c'.iqReg + sumMap (upTok n.id r) out = contS n.id r (V.cl x).iqReg + sumMap (retryDownTok n.id r) cons
  cons_R : ∀ a n, (a, n) ∈ L → x ∈ intendedG groups a n →
    pendS n.id c'.pendingIn + sumMap (retryUpTok n.id) out + shownC c' n.id
      = sumMap (downTok n.id) cons + pendS n.id (V.cl x).pendingIn + shownC (V.cl x) n.id
  ans_iq : ∀ e ∈ c'.iqReg, (e ∈ (V.cl x).iqReg ∧ ∀ st ∈ cons, stanzaIq st ≠ some e.1) ∨ ∃ st ∈ out, stanzaIq st = some e.1
  ans_pend : ∀ e ∈ c'.pendingIn, ∃ k ∈ c'.iqReg, k.2 = Cont.keysForPending e.1.1 e.1.2
  kept_S : ∀ n, (x, n) ∈ L → ∀ r, r ∈ intendedG groups x n →
    inTransitV V x n.id r + sumMap (upTok n.id r) out = sumMap (retryDownTok n.id r) cons ∨ n ∈ c'.sentQueue ∨
      100 < V.submitted.length
  kept_R : ∀ a n, (a, n) ∈ L → x ∈ intendedG groups a n →
    pendS n.id c'.pendingIn + sumMap (retryUpTok n.id) out ≤ sumMap (downTok n.id) cons + pendS n.id (V.cl x).pendingIn
  ret3 : ∀ n, (x, n) ∈ L → ∀ g, n.dest = .group g →
    (lookup c'.ownSK g).isSome = true ∨ ∃ e ∈ c'.iqReg, firstGroupCont e.2 n.id
  slots : ∀ i, sendSlots c' i ≤ 1
  rids : ∀ e ∈ c'.receipts, ∃ p ∈ V.submitted, p.2.id = e.1
  retq : ∀ e ∈ c'.iqReg, ∀ n w c, e.2 = Cont.keysForRetry n w c → isGroupDest n.dest = true →
    n ∈ c'.sentQueue ∨ 100 < V.submitted.length
  unop_out : ∀ r, r ≠ x → ∀ n, sumMap (upN groups r n) out ≤ 1 ∧ (1 ≤ sumMap (upN groups r n) out → V.nextCtr ≤ n)
  unop_pend : ∀ n, pendN n c'.pendingIn ≤ sumMap (nOf n) cons + pendN n (V.cl x).pendingIn
  unop_seen : ∀ n, (n ∈ c'.seen.map Prod.snd ∨ n ∈ c'.seenSK.map Prod.snd) →
    (n ∈ (V.cl x).seen.map Prod.snd ∨ n ∈ (V.cl x).seenSK.map Prod.snd) ∨
      pendN n c'.pendingIn + 1 ≤ sumMap (nOf n) cons + pendN n (V.cl x).pendingIn

structure CStepOK (accts : List Acct) (groups : List (Nat × List Acct)) (L : List (Acct × Node)) (V : View) (x : Acct)
    (cons rest : List Stanza) (c' : Client) (out : List Stanza) (k : Nat) : Prop
    extends CStepOKc accts groups L V x cons rest c' out k where
  rcons_S : ∀ n, (x, n) ∈ L → ∀ r, r ∈ intendedG groups x n →
    rcptGot c' n.id r = rcptGot (V.cl x) n.id r + sumMap (rcptOut n.id r) cons
  rcons_R : ∀ a n, (a, n) ∈ L → x ∈ intendedG groups a n → sumMap (rcptIn n.id) out + shownC (V.cl x) n.id = shownC c' n.id

section Client
variable {ex : Bool} {accts : List Acct} {groups : List (Nat × List Acct)} {L : List (Acct × Node)} {V : View} {x : Acct}
  {cons rest : List Stanza} {c' : Client} {out : List Stanza} {k : Nat}

theorem ClientGood.fresh {c : Client} {n : Nat} (h : ClientGood k c) (hn : k ≤ n) :
    n ∉ c.seen.map Prod.snd ∧ n ∉ c.seenSK.map Prod.snd := by
  refine ⟨fun hm => ?_, fun hm => ?_⟩
  · obtain ⟨e, he, rfl⟩ := List.mem_map.mp hm
    exact Nat.lt_irrefl _ (Nat.lt_of_lt_of_le (h.seen e he) hn)
  · obtain ⟨e, he, rfl⟩ := List.mem_map.mp hm
    exact Nat.lt_irrefl _ (Nat.lt_of_lt_of_le (h.seenSK e he) hn)

theorem TV.client_step_core (hn : accts.Nodup) (h : TV ex accts groups L V) (hs : CStepOKc accts groups L V x cons rest c' out k)
    (hrc : ∀ a n, (a, n) ∈ L → ∀ r, r ∈ intendedG groups a n →
      rcRel ex (receiptTokensV ((V.popOut x rest).cstep x c' out k) a n.id r) (shownC (((V.popOut x rest).cstep x c' out k).cl r) n.id)) :
    TV ex accts groups L ((V.popOut x rest).cstep x c' out k) := by
  obtain ⟨hclx, hinx, houtx⟩ := V.step_same x rest c' out k
  have hcl := fun r (hr : r ≠ x) => (V.step_other x rest c' out k hr).1
  have hin := fun r (hr : r ≠ x) => (V.step_other x rest c' out k hr).2.1
  have hout := fun r (hr : r ≠ x) => (V.step_other x rest c' out k hr).2.2
  -- a fact about each client's record: to be shown for the new record of `x`; the others are as before
  have hrec : ∀ (P : Acct → Client → Prop), P x c' → (∀ a, a ≠ x → P a (V.cl a)) →
      ∀ a, P a (((V.popOut x rest).cstep x c' out k).cl a) := by
    intro P hx ho a
    by_cases ha : a = x
    · rw [ha, hclx]; exact hx
    · rw [hcl a ha]; exact ho a ha
  have hle : V.le ((V.popOut x rest).cstep x c' out k) :=
    ⟨hs.hk, hrec (fun a c => ∀ id, shownC (V.cl a) id ≤ shownC c id) hs.shown_mono fun _ _ _ => Nat.le_refl _, fun p hp => hp⟩
  -- the tokens of a message of `a` for `r` change where the client is the sender (`a = x`) or the recipient (`r = x`)
  have pair : ∀ a n, (a, n) ∈ L → ∀ r, r ∈ intendedG groups a n →
      tokensV ((V.popOut x rest).cstep x c' out k) a n.id r = 1 ∧
      (inTransitV ((V.popOut x rest).cstep x c' out k) a n.id r = 0 ∨
        n ∈ (((V.popOut x rest).cstep x c' out k).cl a).sentQueue ∨ 100 < V.submitted.length) := by
    intro a n hn' r hr
    have hne := h.neq a n hn' r hr
    have d1 := inTransitV_cstep (V.popOut x rest) x c' out k a n.id r
    have d2 := inTransitV_popOuts V x hs.hq a n.id r
    rw [View.popOut_cl] at d1
    have h0 := h.cons a n hn' r hr
    have h1 := h.kept a n hn' r hr
    rw [tokensV_eq] at h0 ⊢
    by_cases ha : a = x
    · subst ha
      rw [hclx, hcl r hne]
      simp only [hne, if_false, if_true] at d1 d2
      have := hs.cons_S n hn' r hr
      refine ⟨by omega, ?_⟩
      rcases hs.kept_S n hn' r hr with h2 | h2
      · left; omega
      · exact Or.inr h2
    · rw [hcl a ha]
      by_cases hrx : r = x
      · subst hrx
        rw [hclx]
        simp only [ha, if_false, if_true] at d1 d2
        have := hs.cons_R a n hn' hr
        have := hs.kept_R a n hn' hr
        refine ⟨by omega, ?_⟩
        rcases h1 with h2 | h2
        · left; omega
        · exact Or.inr h2
      · simp only [ha, hrx, if_false, Nat.add_zero] at d1 d2
        rw [hcl r hrx, d1.trans d2]
        exact ⟨h0, h1⟩
  exact { h with
    clients := hrec (fun _ c => ClientGood k c) hs.good_c fun r _ => (h.clients r).mono hs.hk
    ups := by
      intro r st hst
      by_cases hr : r = x
      · subst hr
        rw [hclx]
        rw [hinx] at hst
        rcases List.mem_append.mp hst with h1 | h1
        · exact (h.ups r st h1).mono hs.hk hs.shown_mono
        · exact hs.good_out st h1
      · rw [hcl r hr]
        rw [hin r hr] at hst
        exact (h.ups r st hst).mono hs.hk (fun _ => Nat.le_refl _)
    downs := by
      intro r st hst
      refine DownGood.mono hle (h.downs r st ?_)
      by_cases hr : r = x
      · subst hr
        rw [houtx] at hst
        rw [hs.hq]; exact List.mem_append_right _ hst
      · rwa [hout r hr] at hst
    cons := fun a n hn' r hr => (pair a n hn' r hr).1
    rcons := hrc
    ans := by
      intro r
      by_cases hr : r = x
      · subst hr
        rw [hclx, hinx, houtx]
        refine ⟨?_, hs.ans_pend⟩
        intro e he
        rcases hs.ans_iq e he with ⟨h1, h2⟩ | ⟨st, h1, h2⟩
        · obtain ⟨st, hst, hiq⟩ := (h.ans r).1 e h1
          refine ⟨st, ?_, hiq⟩
          rw [hs.hq] at hst
          simp only [List.mem_append] at hst ⊢
          rcases hst with h3 | h3 | h3
          · exact Or.inl (Or.inl h3)
          · exact absurd hiq (h2 st h3)
          · exact Or.inr h3
        · exact ⟨st, List.mem_append_left _ (List.mem_append_right _ h1), h2⟩
      · rw [hcl r hr, hin r hr, hout r hr]
        exact h.ans r
    unop := by
      intro r hr n
      have d1 := wayV_cstep (V.popOut x rest) x hn c' out k r n
      have d2 := wayV_popOuts (accts := accts) V x hs.hq r n
      rw [View.popOut_cl, View.popOut_groups] at d1
      obtain ⟨u1, u2⟩ := h.unop r hr n
      by_cases hrx : r = x
      · -- at `x`: what was on its way is parked, or was opened and is no longer on its way
        subst hrx
        rw [hclx]
        simp only [if_true, ne_eq, not_true_eq_false, and_false, if_false] at d1 d2
        have hp := hs.unop_pend n
        refine ⟨by omega, fun hge => not_or.mp (fun hm => ?_)⟩
        have hold := u2 (by omega)
        rcases hs.unop_seen n hm with h1 | h1
        · exact h1.elim hold.1 hold.2
        · omega
      · -- elsewhere: only nonces not handed out before are added
        have hxr : x ≠ r := fun e => hrx e.symm
        simp only [hrx, if_false, hs.hx, hxr, ne_eq, not_false_eq_true, and_self, if_true, Nat.add_zero] at d1 d2
        rw [hcl r hrx, d1, d2, h.grp]
        obtain ⟨o1, o2⟩ := hs.unop_out r hrx n
        by_cases hpos : 1 ≤ sumMap (upN groups r n) out
        · rw [wayV_eq_zero h r (o2 hpos), Nat.zero_add]
          exact ⟨o1, fun _ => (h.clients r).fresh (o2 hpos)⟩
        · rw [Nat.eq_zero_of_not_pos hpos]
          exact ⟨u1, u2⟩
    kept := fun a n hn' r hr => (pair a n hn' r hr).2
    ret3 := hrec (fun a c => ∀ n, (a, n) ∈ L → ∀ g, n.dest = .group g →
      (lookup c.ownSK g).isSome = true ∨ ∃ e ∈ c.iqReg, firstGroupCont e.2 n.id) hs.ret3 fun a _ => h.ret3 a
    slots := hrec (fun _ c => ∀ i, sendSlots c i ≤ 1) hs.slots fun a _ => h.slots a
    rids := hrec (fun _ c => ∀ e, e ∈ c.receipts → ∃ p ∈ V.submitted, p.2.id = e.1) hs.rids fun a _ => h.rids a
    retq := hrec (fun _ c => ∀ e, e ∈ c.iqReg → ∀ n w cnt, e.2 = Cont.keysForRetry n w cnt → isGroupDest n.dest = true →
      n ∈ c.sentQueue ∨ 100 < V.submitted.length) hs.retq fun a _ => h.retq a }

theorem TV.client_step (hn : accts.Nodup) (h : TV ex accts groups L V) (hs : CStepOK accts groups L V x cons rest c' out k) :
    TV ex accts groups L ((V.popOut x rest).cstep x c' out k) := by
  refine TV.client_step_core hn h hs.toCStepOKc fun a n hn' r hr => rcRel_shift (h.rcons a n hn' r hr) ?_
  -- the receipts of a message change where the client is its sender, or the recipient that shows it
  have hne := h.neq a n hn' r hr
  have d1 := receiptTokensV_cstep (V.popOut x rest) x c' out k a n.id r
  have d2 := receiptTokensV_popOuts V x hs.hq a n.id r
  rw [View.popOut_cl] at d1
  show _ = _ + shownC (upd V.cl x c' r) n.id
  by_cases ha : a = x
  · subst ha
    have := hs.rcons_S n hn' r hr
    simp only [hne, upd_ne _ _ hne, if_false, if_true] at d1 d2 ⊢
    omega
  · by_cases hrx : r = x
    · subst hrx
      have := hs.rcons_R a n hn' hr
      simp only [ha, upd_same, if_false, if_true] at d1 d2 ⊢
      omega
    · simp only [ha, hrx, upd_ne _ _ hrx, if_false, Nat.add_zero] at d1 d2 ⊢
      rw [d1, d2]

end Client

structure SStepOK (accts : List Acct) (groups : List (Nat × List Acct)) (L : List (Acct × Node)) (V : View) (x : Acct)
    (hd : Stanza) (rest : List Stanza) (add : Acct → List Stanza) : Prop where
  hx : x ∈ accts
  hq : V.inb x = hd :: rest
  good_add : ∀ b st, st ∈ add b → DownGood V b st
  cons : ∀ a n, (a, n) ∈ L → ∀ r, r ∈ intendedG groups a n →
    sumMap (downTok n.id) (add r) + sumMap (retryDownTok n.id r) (add a)
      = (if a = x then upTok n.id r hd else 0) + (if r = x then retryUpTok n.id hd else 0)
  rcons : ∀ a n, (a, n) ∈ L → ∀ r, r ∈ intendedG groups a n →
    sumMap (rcptOut n.id r) (add a) = if r = x then rcptIn n.id hd else 0
  ans : ∀ e ∈ (V.cl x).iqReg, stanzaIq hd = some e.1 → ∃ st ∈ add x, stanzaIq st = some e.1
  unop : ∀ r, r ∈ accts → ∀ n, sumMap (nOf n) (add r) = if x ≠ r then upN groups r n hd else 0

section Server
variable {V : View} {x : Acct} {hd : Stanza} {rest : List Stanza} {add : Acct → List Stanza}

/-! The server takes `hd` from the connection of `x` and queues `add`: the counted quantities stay as they are when
    what is queued carries what `hd` carried. -/

theorem inTransitV_unchanged (hq : V.inb x = hd :: rest) {a r : Acct} {id : Nat}
    (hadd : sumMap (downTok id) (add r) + sumMap (retryDownTok id r) (add a)
      = (if a = x then upTok id r hd else 0) + (if r = x then retryUpTok id hd else 0)) :
    inTransitV ((V.popIn x rest).pushes add) a id r = inTransitV V a id r := by
  have := inTransitV_server V x (cons := [hd]) hq add a id r
  simp only [sumMap_singleton] at this
  omega

theorem TV.server_step {accts : List Acct} {groups : List (Nat × List Acct)} {L : List (Acct × Node)}
    {ex : Bool} (hn : accts.Nodup) (h : TV ex accts groups L V) (hs : SStepOK accts groups L V x hd rest add) :
    TV ex accts groups L ((V.popIn x rest).pushes add) := by
  have hle : V.le ((V.popIn x rest).pushes add) := ⟨Nat.le_refl _, fun _ _ => Nat.le_refl _, fun p hp => hp⟩
  have hinx : ((V.popIn x rest).pushes add).inb x = rest := upd_same _ _ _
  have hin : ∀ r, r ≠ x → ((V.popIn x rest).pushes add).inb r = V.inb r := fun r hr => upd_ne _ _ hr
  exact { h with
    ups := by
      intro r st hst
      refine h.ups r st ?_
      by_cases hr : r = x
      · subst hr
        rw [hinx] at hst
        rw [hs.hq]; exact List.mem_cons_of_mem _ hst
      · rwa [hin r hr] at hst
    downs := by
      intro r st hst
      rcases List.mem_append.mp (show st ∈ V.outb r ++ add r from hst) with h1 | h1
      · exact (h.downs r st h1).mono hle
      · exact (hs.good_add r st h1).mono hle
    cons := by
      intro a n hn' r hr
      have := h.cons a n hn' r hr
      rw [tokensV_eq] at this ⊢
      rw [inTransitV_unchanged hs.hq (hs.cons a n hn' r hr)]
      exact this
    rcons := by
      intro a n hn' r hr
      have d := receiptTokensV_server V x (cons := [hd]) hs.hq add a n.id r
      rw [hs.rcons a n hn' r hr, sumMap_singleton] at d
      rw [Nat.add_right_cancel d]
      exact h.rcons a n hn' r hr
    ans := by
      intro r
      refine ⟨?_, (h.ans r).2⟩
      intro e he
      obtain ⟨st, hst, hiq⟩ := (h.ans r).1 e he
      show ∃ st ∈ ((V.popIn x rest).pushes add).inb r ++ (V.outb r ++ add r), _
      by_cases hr : r = x
      · subst hr
        rw [hinx]
        rw [hs.hq] at hst
        simp only [List.cons_append, List.mem_cons, List.mem_append] at hst
        rcases hst with h1 | h1 | h1
        · subst h1
          obtain ⟨st', h2, h3⟩ := hs.ans e he hiq
          exact ⟨st', by simp [h2], h3⟩
        · exact ⟨st, by simp [h1], hiq⟩
        · exact ⟨st, by simp [h1], hiq⟩
      · rw [hin r hr]
        refine ⟨st, ?_, hiq⟩
        simp only [List.mem_append] at hst ⊢
        rcases hst with h1 | h1
        · exact Or.inl h1
        · exact Or.inr (Or.inl h1)
    unop := by
      intro r hr n
      have d := wayV_server V x hn (cons := [hd]) hs.hq add r n
      simp only [hs.hx, true_and, sumMap_singleton, hs.unop r hr n, h.grp] at d
      rw [Nat.add_right_cancel d]
      exact h.unop r hr n
    kept := by
      intro a n hn' r hr
      rw [inTransitV_unchanged hs.hq (hs.cons a n hn' r hr)]
      exact h.kept a n hn' r hr }

end Server

theorem count_ctsFor_le (r : Acct) (st : Stanza) (m : Nat) : ((ctsFor r st).map (·.ctr)).count m ≤ (ctrsOf st).count m := by
  have hsub : ∀ (p : Option Acct × Ct → Bool) (encs : List (Option Acct × Ct)),
      (((encs.filter p).map Prod.snd).map (·.ctr)).count m ≤ (encs.map (fun e => e.2.ctr)).count m := by
    intro p encs
    rw [List.map_map]
    exact List.Sublist.count_le _ (List.Sublist.map _ List.filter_sublist)
  unfold ctsFor ctrsOf
  split
  · split
    · exact hsub _ _
    · simp
  · split
    · exact hsub _ _
    · simp
  · exact hsub _ _
  · simp

theorem upN_le (groups : List (Nat × List Acct)) (r : Acct) (st : Stanza) (m : Nat) : upN groups r m st ≤ nOf m st := by
  unfold upN nOf
  split
  · exact count_ctsFor_le r st m
  · omega

end Yow.E2E
