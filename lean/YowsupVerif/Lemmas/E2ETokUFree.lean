/-
  Which functions of the model can queue a retry request: apart from a failed decryption (`handleEnc`,
  `processPending`) and the server forwarding one, none (`ClientOp` / `Pushes` of E2EOps with "not a retry request").
  E2ETokUnbounded rests its retry-free invariant on this.
-/
import YowsupVerif.Lemmas.E2EOps
namespace Yow.E2E

/-- no retry request is queued anywhere -/
def RF (s : Sys) : Prop := ∀ a st, (st ∈ queueOf s.inbound a ∨ st ∈ queueOf s.outbound a) → isRetry st = false

/-- what is queued in `s'` was queued in `s`, or is not a retry request -/
def QAdd (s s' : Sys) : Prop :=
  (∀ a st, st ∈ queueOf s'.inbound a → st ∈ queueOf s.inbound a ∨ isRetry st = false) ∧
  (∀ a st, st ∈ queueOf s'.outbound a → st ∈ queueOf s.outbound a ∨ isRetry st = false)

def SameQ (s s' : Sys) : Prop := s'.inbound = s.inbound ∧ s'.outbound = s.outbound

theorem QAdd.rfl' (s : Sys) : QAdd s s := ⟨fun _ _ h => Or.inl h, fun _ _ h => Or.inl h⟩

theorem QAdd.trans {s s1 s2 : Sys} (h1 : QAdd s s1) (h2 : QAdd s1 s2) : QAdd s s2 := by
  constructor
  · intro a st hst
    rcases h2.1 a st hst with h | h
    · exact h1.1 a st h
    · exact Or.inr h
  · intro a st hst
    rcases h2.2 a st hst with h | h
    · exact h1.2 a st h
    · exact Or.inr h

theorem QAdd.of_same {s s' : Sys} (h : SameQ s s') : QAdd s s' := by
  constructor
  · intro a st hst; rw [h.1] at hst; exact Or.inl hst
  · intro a st hst; rw [h.2] at hst; exact Or.inl hst

theorem SameQ.qadd {s0 s s' : Sys} (h : SameQ s0 s) (hq : QAdd s s') : QAdd s0 s' := (QAdd.of_same h).trans hq

theorem RF.of_qadd {s s' : Sys} (h : RF s) (hq : QAdd s s') : RF s' := by
  intro a st hst
  rcases hst with h1 | h1
  · rcases hq.1 a st h1 with h2 | h2
    · exact h a st (Or.inl h2)
    · exact h2
  · rcases hq.2 a st h1 with h2 | h2
    · exact h a st (Or.inr h2)
    · exact h2

theorem QAdd.emit (s : Sys) (a : Acct) {st : Stanza} (h : isRetry st = false) : QAdd s (emit s a st) := by
  refine ⟨fun b st' hst' => ?_, fun _ _ hst' => Or.inl hst'⟩
  rcases mem_queueOf_snoc hst' with h1 | h1
  · exact Or.inl h1
  · exact Or.inr (h1 ▸ h)

theorem QAdd.push (s : Sys) (a : Acct) {st : Stanza} (h : isRetry st = false) : QAdd s (push s a st) := by
  refine ⟨fun _ _ hst' => Or.inl hst', fun b st' hst' => ?_⟩
  rcases mem_queueOf_snoc hst' with h1 | h1
  · exact Or.inl h1
  · exact Or.inr (h1 ▸ h)

theorem QAdd.of_op {a : Acct} {s s' : Sys} (o : ClientOp (fun _ _ => True) (fun st => isRetry st = false) a s s') : QAdd s s' := by
  induction o with
  | refl s => exact .rfl' s
  | set _ => exact .of_same ⟨rfl, rfl⟩
  | emit h => exact .emit _ _ h
  | ctrs => exact .of_same ⟨rfl, rfl⟩
  | trans _ _ h1 h2 => exact h1.trans h2

theorem QAdd.sendIq (s : Sys) (a : Acct) (c : Client) (mk : Nat → Stanza) (k : Cont) (hmk : ∀ iq, isRetry (mk iq) = false) :
    QAdd s (sendIq s a c mk k) :=
  .of_op (sendIq_op (fun _ _ => trivial) (hmk _))

theorem QAdd.sendToContact (s : Sys) (a : Acct) (c : Client) (n : Node) (peer : Acct) : QAdd s (sendToContact s a c n peer) :=
  .of_op (sendToContact_op (fun _ h => h) fun _ _ => trivial)

theorem QAdd.sendToGroup (s : Sys) (a : Acct) (c : Client) (n : Node) (g : Nat) (retry : Option (Acct × Nat)) :
    QAdd s (sendToGroup s a c n g retry) :=
  .of_op (sendToGroup_op (fun _ h => h) fun _ _ => trivial)

theorem QAdd.sendLayerSend (s : Sys) (a : Acct) (n : Node) : QAdd s (sendLayerSend s a n) :=
  .of_op (sendLayerSend_op (fun _ _ _ => trivial) fun _ h => h)

/-- the answer to a query, for every continuation except the one a parked stanza waits for -/
theorem QAdd.onIqResult (s : Sys) (r : Acct) (iq : Nat) (got ms : List Acct)
    (hk : ∀ k, lookup (getClient s r).iqReg iq = some k → ∀ p q, k ≠ Cont.keysForPending p q) :
    QAdd s (onIqResult s r iq got ms) :=
  .of_op (onIqResult_op (fun _ _ _ => trivial) (fun _ h => h) fun k hk' x y e => absurd e (hk k hk' x y))

theorem QAdd.onReceipt_delivery (s : Sys) (r : Acct) (id : Nat) (peer : Dest) (part : Option Acct) :
    QAdd s (onReceipt s r id peer part .delivery) :=
  .of_op (onReceipt_op (fun _ _ _ => trivial) (fun _ h => h) .delivery)

theorem QAdd.of_pushes {s s' : Sys} (o : Pushes (fun st => isRetry st = false) s s') : QAdd s s' := by
  induction o with
  | refl s => exact .rfl' s
  | push s a h => exact .push s a h
  | trans _ _ h1 h2 => exact h1.trans h2

theorem QAdd.serverProcess (s : Sys) (a : Acct) {st : Stanza} (h : isRetry st = false) : QAdd s (serverProcess s a st) :=
  .of_pushes (serverProcess_pushes s a (fun _ h' => h') fun h' => Bool.noConfusion (h.symm.trans h'))

end Yow.E2E
