/-
  Exactly-once and token conservation in fault-free runs with ANY number of messages.  The send layer keeps only the last
  100 sent nodes for answering retry requests; in a fault-free run every ciphertext opens (the decryptability invariant
  of the runs with faults), so no retry request is ever made and the sent queue is never read.
-/
import YowsupVerif.Lemmas.E2ETokUFree
import YowsupVerif.Lemmas.E2EFaults
import YowsupVerif.Lemmas.E2ETokBool
namespace Yow.E2E

section
variable {accts : List Acct} {groups : List (Nat × List Acct)}

theorem TV.weaken {L : List (Acct × Node)} {V : View} (h : TV true accts groups L V) : TV false accts groups L V :=
  { h with
    rcons := fun a n hn r hr => by
      have h1 : receiptTokensV V a n.id r = shownC (V.cl r) n.id := by simpa [rcRel] using h.rcons a n hn r hr
      simp [rcRel, h1] }

structure UInv (accts : List Acct) (groups : List (Nat × List Acct)) (s : Sys) : Prop where
  tinv : TInv true accts groups s
  dv : DV groups (view s)
  gv : GV groups (view s)
  rf : RF s

theorem UInv.live {s : Sys} (h : UInv accts groups s) (z : Acct) (st : Stanza) (hst : st ∈ queueOf s.outbound z) :
    dead (getClient s z) st = false := by
  obtain ⟨hz, _, _⟩ := h.tinv.1.outb_ok z st hst
  exact live_of_unop h.tinv.2 hz (show st ∈ (view s).outb z from hst)

theorem UInv.finv {s : Sys} (h : UInv accts groups s) : FInv accts groups s where
  ainv := h.tinv.1
  tv := by
    rw [view_flat_eq (s' := s) (o2 := s.outbound) (f2 := s.faulted) fun z => (liveQ_eq_self (h.live z)).symm]
    exact h.tinv.2.weaken
  dv := h.dv
  gv := h.gv
  dead := fun y st hst hd => by rw [h.live y st hst] at hd; cases hd

theorem QAdd.popIn (s : Sys) (a : Acct) {st : Stanza} {rest : List Stanza} (hq : queueOf s.inbound a = st :: rest) :
    QAdd s { s with inbound := insert s.inbound a rest } :=
  ⟨fun _ _ h => Or.inl (mem_queueOf_pop hq h), fun _ _ h => Or.inl h⟩

theorem QAdd.popOut (s : Sys) (a : Acct) {st : Stanza} {rest : List Stanza} (hq : queueOf s.outbound a = st :: rest) :
    QAdd s { s with outbound := insert s.outbound a rest } :=
  ⟨fun _ _ h => Or.inl h, fun _ _ h => Or.inl (mem_queueOf_pop hq h)⟩

theorem QAdd.of_rstep {s s' : Sys} {r : Acct} {c' : Client} {out : List Stanza} (hr : RStep s s' r c' out)
    (hout : ∀ st ∈ out, isRetry st = false) : QAdd s s' := by
  unfold RStep at hr
  constructor
  · intro z st hst
    have e : (view s').inb z = upd (fun a => queueOf s.inbound a) r (queueOf s.inbound r ++ out) z := by rw [hr]; rfl
    have hst' : st ∈ (view s').inb z := hst
    rw [e, upd_apply] at hst'
    split at hst'
    · next e' =>
      subst e'
      rcases List.mem_append.mp hst' with h1 | h1
      · exact Or.inl h1
      · exact Or.inr (hout st h1)
    · exact Or.inl hst'
  · intro z st hst
    have e : (view s').outb z = queueOf s.outbound z := by rw [hr]; rfl
    have hst' : st ∈ (view s').outb z := hst
    rw [e] at hst'
    exact Or.inl hst'

theorem uinv_step (hw : WFConfig accts groups) (hnd : ∀ g ∈ groups, g.2.Nodup) {s : Sys} {act : Act}
    (h : UInv accts groups s) (hall : Allowed s act = true) (hnf : ∀ y f, act = .deliver y f → f = .none) :
    UInv accts groups (step s act) := by
  have hF := h.finv
  obtain ⟨c1, c2⟩ := crypto_step hw hnd hF hall
  suffices hs : TInv true accts groups (step s act) ∧ QAdd s (step s act) from ⟨hs.1, c1, c2, h.rf.of_qadd hs.2⟩
  cases act with
  | appSend a n =>
    exact ⟨appSend_TInv' hw h.tinv hall,
      (show SameQ s { s with submitted := s.submitted ++ [(a, n)] } from ⟨rfl, rfl⟩).qadd (QAdd.sendLayerSend _ _ _)⟩
  | process a =>
    obtain ⟨st, rest, hq⟩ := allowed_process hall
    have hst : isRetry st = false := h.rf a st (Or.inl (mem_head hq))
    exact ⟨process_TInv hw hnd h.tinv hall, step_process hq ▸ (QAdd.popIn s a hq).trans (QAdd.serverProcess _ a hst)⟩
  | restart a => exact ⟨restart_TInv hw h.tinv hall, QAdd.of_same ⟨rfl, rfl⟩⟩
  | deliver y f =>
    cases hnf y f rfl
    have hT' : TInv true accts groups (step s (.deliver y .none)) := by
      refine deliver_TInv' hw h.tinv hall (Or.inr ?_)
      intro st' hst' id peer part cnt e
      have := h.rf y st' (Or.inr hst')
      rw [e] at this
      cases this
    refine ⟨hT', ?_⟩
    obtain ⟨st, rest, hq, ⟨hnm, _⟩ | ⟨id, peer, part, im, encs, pl, rfl, ⟨hd, _⟩ | hlive⟩⟩ := deliver_cases hF hall
    · have hst : isRetry st = false := h.rf y st (Or.inr (mem_head hq))
      rw [step_deliver_pop hq]
      refine (QAdd.popOut s y hq).trans ?_
      have hiq : ∀ iq got ms, QAdd { s with outbound := insert s.outbound y rest }
          (onIqResult { s with outbound := insert s.outbound y rest } y iq got ms) :=
        fun iq got ms => QAdd.onIqResult _ y iq got ms (fun k hk p q e => (h.dv.p0 y).2 (iq, k) (lookup_mem hk) p q e)
      cases st with
      | msg id peer part im encs pl => exact absurd rfl (hnm id peer part im encs pl)
      | receipt id peer part t =>
        cases t with
        | delivery => exact QAdd.onReceipt_delivery _ _ _ _ _
        | retry c => cases hst
      | ack id k => exact QAdd.rfl' _
      | getKeys iq j => exact QAdd.rfl' _
      | getGroup iq g => exact QAdd.rfl' _
      | keys iq got => exact hiq iq got []
      | groupInfo iq g ms => exact hiq iq [] ms
    · rw [h.live y _ (mem_head hq)] at hd
      cases hd
    · -- the message opens: only a delivery receipt goes out
      have hmem := mem_head hq
      have hr := rstep_handleEnc (s := { s with outbound := insert s.outbound y rest }) (hF.acc (hF.ainv.outb_ok y _ hmem).1)
        id peer part im encs pl
      rw [← clientReceive_msg _ y (hF.dv.down y _ hmem).1.nonempty, ← step_deliver_pop hq] at hr
      refine (QAdd.popOut s y hq).trans (QAdd.of_rstep hr ?_)
      intro st' hst'
      rw [show getClient { s with outbound := insert s.outbound y rest } y = getClient s y from rfl, (msg_opened hF hq hlive).2.2,
        List.mem_singleton] at hst'
      subst hst'
      rfl

theorem init_UInv (hw : WFConfig accts groups) : UInv accts groups (initSys accts groups) := by
  have hF := init_FInv hw
  exact ⟨init_TInv hw, hF.dv, hF.gv, fun a st hst => by rcases hst with h | h <;> cases h⟩

theorem UInv_run (hw : WFConfig accts groups) (hnd : ∀ g ∈ groups, g.2.Nodup) (acts : List Act) (s : Sys)
    (h : UInv accts groups s) (ha : AllowedRun s acts = true) (hf : NoFault acts = true) : UInv accts groups (run s acts) := by
  refine (run_induction (Inv := fun s acts => UInv accts groups s ∧ NoFault acts = true) ?_ acts s ⟨h, hf⟩ ha).1
  intro s act acts ⟨h, hf⟩ hall
  cases act with
  | deliver y f =>
    cases f with
    | none => exact ⟨uinv_step hw hnd h hall (fun _ _ e => by cases e; rfl), hf⟩
    | dup => exact absurd hf Bool.false_ne_true
    | corrupt => exact absurd hf Bool.false_ne_true
  | _ => exact ⟨uinv_step hw hnd h hall (fun _ _ e => by cases e), hf⟩

end

theorem conserved_fault_free_unbounded (accts : List Acct) (groups : List (Nat × List Acct)) (hw : WFConfig accts groups)
    (hnd : ∀ g ∈ groups, g.2.Nodup) (acts : List Act) (ha : AllowedRun (initSys accts groups) acts = true) (hf : NoFault acts = true) :
    conserved (run (initSys accts groups) acts) = true :=
  tinv_conserved (UInv_run hw hnd acts _ (init_UInv hw) ha hf).tinv

theorem exactly_once_fault_free_unbounded (accts : List Acct) (groups : List (Nat × List Acct)) (hw : WFConfig accts groups)
    (hnd : ∀ g ∈ groups, g.2.Nodup) (acts : List Act) (ha : AllowedRun (initSys accts groups) acts = true) (hf : NoFault acts = true) :
    let s := run (initSys accts groups) acts
    quiescent s = true →
      ∀ a n, (a, n) ∈ s.submitted → ∀ r, r ∈ intended s a n →
        shownCount s r n.id = 1 ∧
        ((getClient s a).receipts.filter (fun e =>
          e.1 == n.id && e.2.2.2 == RType.delivery && (e.2.2.1 == some r || (e.2.2.1.isNone && e.2.1 == Dest.user r)))).length = 1 := by
  intro s hq a n hsub r hr
  have hU : UInv accts groups s := UInv_run hw hnd acts _ (init_UInv hw) ha hf
  unfold quiescent at hq
  rw [Bool.and_eq_true] at hq
  have hr' : r ∈ intendedG groups a n := by rw [← hU.tinv.1.grp]; exact hr
  obtain ⟨hsh, hrc⟩ := hU.tinv.2.quiescent (fun z => queueOf_nil_of_all hq.1 z) (fun z => queueOf_nil_of_all hq.2 z) hsub hr'
  refine ⟨hsh, ?_⟩
  show rcptGot (getClient s a) n.id r = 1
  simpa [rcRel] using hrc

end Yow.E2E
