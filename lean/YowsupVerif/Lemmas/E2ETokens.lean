/-
  The executable invariant `tokInv` of Model/E2ETok.lean (the one the check's model driver evaluates) holds after every
  allowed fault-free run with at most 100 messages, and what it means at a settled state: every (message, intended
  recipient) pair has exactly one token (waiting for keys / on its way / parked / asked for again / shown), so when all
  queues are empty and nothing is pending, every message was shown once and its delivery receipt has arrived.
-/
import YowsupVerif.Lemmas.E2E
import YowsupVerif.Model.E2ETok
import YowsupVerif.Lemmas.E2ETokBool
import YowsupVerif.Lemmas.E2ETokQKeys
namespace Yow.E2E

/-- the conservation invariant holds after every fault-free allowed run with at most 100 messages (the sent queue's
    capacity).  `hnd`: a group lists each member once (otherwise the server's fan-out queues two copies for it). -/
theorem tokInv_run (accts : List Acct) (groups : List (Nat × List Acct)) (hw : WFConfig accts groups)
    (hnd : ∀ g ∈ groups, g.2.Nodup)
    (acts : List Act) (ha : AllowedRun (initSys accts groups) acts = true) (hf : NoFault acts = true) (hn : sendCount acts ≤ 100) :
    tokInv (run (initSys accts groups) acts) = true := by
  have hn' : (initSys accts groups).submitted.length + sendCount acts ≤ 100 := by
    rw [show (initSys accts groups).submitted.length = 0 from rfl, Nat.zero_add]; exact hn
  exact tinv_tokInv hw.1 (TInv_run hw hnd acts _ (init_TInv hw) ha hf hn')
    (by rw [run_submitted_len acts _ (init_inv accts groups hw) ha]; exact hn')

theorem tokInv_front {s : Sys} (h : tokInv s = true) :
    conserved s = true ∧ receiptsConserved s = true ∧ answerable s = true := by
  simp only [tokInv, Bool.and_eq_true] at h
  exact ⟨h.1.1.1.1.1.1.1.1.1.1, h.1.1.1.1.1.1.1.1.1.2, h.1.1.1.1.1.1.1.1.2⟩

theorem tokInv_conserved {s : Sys} (h : tokInv s = true) : conserved s = true := (tokInv_front h).1

/-- nothing can be stuck: when all queues are empty, no continuation is waiting and nothing is parked -/
theorem quiescent_settled (s : Sys) (hi : tokInv s = true) (hq : quiescent s = true) : settled s = true :=
  quiescent_settled' s (tokInv_front hi).2.2 hq

/-- at a settled state conservation means: shown exactly once, and the sender's application holds the delivery receipt -/
theorem settled_exactly_once (s : Sys) (hi : tokInv s = true) (hs : settled s = true) :
    ∀ a n, (a, n) ∈ s.submitted → ∀ r, r ∈ intended s a n →
      shownCount s r n.id = 1 ∧
      ((getClient s a).receipts.filter (fun e =>
        e.1 == n.id && e.2.2.2 == RType.delivery && (e.2.2.1 == some r || (e.2.2.1.isNone && e.2.1 == Dest.user r)))).length = 1 :=
  settled_exactly_once' s (tokInv_front hi).1 (tokInv_front hi).2.1 hs

theorem queueKeys_run (accts : List Acct) (groups : List (Nat × List Acct)) (acts : List Act) :
    let s := run (initSys accts groups) acts
    (s.inbound.map Prod.fst).Nodup ∧ (s.outbound.map Prod.fst).Nodup :=
  QKeys.run acts _ (QKeys.init accts groups)

/-- a run that is not settled can always go on: some server action is enabled (so a fair scheduler reaches a settled state
    or runs for ever).  `hk`: without it a shadowed duplicate key with a non-empty queue would be a counterexample. -/
theorem not_quiescent_enabled (s : Sys) (hk : (s.inbound.map Prod.fst).Nodup ∧ (s.outbound.map Prod.fst).Nodup)
    (h : quiescent s = false) :
    ∃ a, Allowed s (.process a) = true ∨ Allowed s (.deliver a .none) = true :=
  not_quiescent_enabled' s hk h

end Yow.E2E
