/-
  The noise layer's handshake / transport orchestration (Model/Handshake.lean) for the configuration in which a
  disconnect retires both the segment queue and the protocol object: for EVERY schedule of the network thread and the
  handshake workers, and every connect / disconnect history an honest network can produce.
-/
import YowsupVerif.Lemmas.HandshakePreserve
namespace Yow.HS

def framesUpOfConn (s : St) : List Seg := (framesUp s).filter (fun sg => sg.conn == s.conn)

theorem Inv_of_run (acts : List Act) (ha : AllowedRun goodCfg {} acts = true) : Inv (run goodCfg {} acts) :=
  Inv_run acts {} Inv_init ha

theorem atRest_elim (s : St) (hr : atRest s = true) :
    s.npc = .idle ∧ ∀ (i : Nat) (w : Worker), s.workers[i]? = some w → w.pc = .done ∨ (w.pc = .reading ∧ qGetL s.queues w.q = []) := by
  simp only [atRest, Bool.and_eq_true, beq_iff_eq, List.all_eq_true, Bool.or_eq_true, List.isEmpty_iff] at hr
  refine ⟨hr.1.1, fun i w hi => ?_⟩
  exact hr.2 w (List.mem_of_getElem? hi)

theorem not_flushing_of_atRest (s : St) (hr : atRest s = true) : ¬Flushing s := by
  obtain ⟨hn, hws⟩ := atRest_elim s hr
  rintro (h1 | ⟨i, w, hi, hpc⟩)
  · exact h1 hn
  · rcases hws i w hi with hd | ⟨hd, _⟩ <;> rw [hd] at hpc <;> exact hpc.elim (fun e => nomatch e) (fun e => nomatch e)

theorem post_of_atRest (s : St) (h : Inv s) (hr : atRest s = true) (hl : s.live = true) (hne : (obs s).arrivedCur ≠ []) :
    Obs.Post (obs s) := by
  obtain ⟨i, w, hw, hc⟩ := h.cur_worker hl
  obtain ⟨_, hwq, hph⟩ := h.cur hw hl hc
  rcases (atRest_elim s hr).2 _ w hw with hd | ⟨hrd, hq⟩
  · rw [hd] at hph; exact hph
  · rw [hrd] at hph
    rw [hwq] at hq
    exact absurd (hph.2.1.symm.trans hq) hne

theorem frames_in_order {s : St} (h : Inv s) (hg : allGood s = true) :
    noRaise s = true ∧ framesUpOfConn s <+: framesOfConn s :=
  ⟨h.env.quiet hg, h.env.upPrefix⟩

/-- also when not every segment authenticates: in transport state nothing undecryptable has been consumed on this connection -/
theorem frames_complete {s : St} (h : Inv s) (hr : atRest s = true) (ht : pstate s = .transport) :
    framesUpOfConn s = framesOfConn s := by
  -- nobody is left to flush, so nothing waits in the queue
  have hQ : (obs s).Q = [] := Classical.byContradiction fun hne => not_flushing_of_atRest s hr (h.pend hne ht)
  have := ((h.post_of_transport ht).transport ht).2
  rw [hQ, List.append_nil] at this
  exact this

theorem handshake_succeeds {s : St} (h : Inv s) (hg : allGood s = true) (hr : atRest s = true) (hl : s.live = true)
    (hh : s.helloSeen = true) : pstate s = .transport ∧ keyOf s = some s.conn := by
  obtain ⟨hd, _, hd2⟩ := h.env.hello1 hl hh
  have hp := post_of_atRest _ h hr hl (by rw [hd2]; exact List.cons_ne_nil _ _)
  rcases hp.over with ht | he
  · exact ⟨ht, (hp.transport ht).1⟩
  · exact absurd (hg.symm.trans (hp.error he)) (by decide)

theorem failure_reported {s : St} (h : Inv s)
    (hb : ∃ sg ∈ s.arrived, sg.kind = .hello ∧ sg.conn = s.conn ∧ sg.good = false)
    (hr : atRest s = true) (hl : s.live = true) : pstate s = .error ∧ Up.failure s.conn ∈ s.up := by
  obtain ⟨sg, hm, hk, hc, hb⟩ := hb
  have hm' : sg ∈ (obs s).arrivedCur := (Obs.mem_arrivedCur (obs s) sg).mpr ⟨hm, hc⟩
  have hne := List.ne_nil_of_mem hm'
  obtain ⟨_, hd, _, hd2⟩ := Obs.arrivedCur_ne_nil _ h.env hl hne
  have hsg : sg = hd := by
    rw [hd2] at hm'
    rcases List.mem_cons.mp hm' with e | e
    · exact e
    · exact absurd (hk.symm.trans (Obs.framesCur_sub _ sg e).1) (by decide)
  obtain ⟨hd', t, h1, h3⟩ := (post_of_atRest _ h hr hl hne).reply
  have : hd' = hd := by rw [hd2] at h1; exact ((List.cons.inj h1).1).symm
  exact h3 (by rw [this, ← hsg]; exact hb)

end Yow.HS
