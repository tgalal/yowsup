/-
  The inductive invariant of the handshake / transport orchestration (Model/Handshake.lean) for the configuration in
  which a disconnect retires the queue and the protocol object: its definition, the general ways to re-establish it
  after a step, and the elementary state changes of which most steps are composed.  `Inv.x` reads a fact off the
  invariant; `Inv_x` re-establishes it after the change `x`.
-/
import YowsupVerif.Lemmas.HandshakeObs
namespace Yow.HS
open Obs

/-- What the invariant says of the worker at index `i`: the live connection's drives the current objects, which are in
    the phase of its program counter; all others (abandoned attempts) drive older ones. -/
def Slot (s : St) (i : Nat) (w : Worker) : Prop :=
  w.conn = i + 1 ∧
  (¬(s.live = true ∧ i + 1 = s.conn) → w.p < s.curP ∧ w.q < s.curQ) ∧
  (s.live = true → i + 1 = s.conn → w.p = s.curP ∧ w.q = s.curQ ∧ Phase (obs s) w.pc)

def Flushing (s : St) : Prop :=
  s.npc ≠ .idle ∨ ∃ (i : Nat) (w : Worker), s.workers[i]? = some w ∧ (w.pc = .wantFlush ∨ w.pc = .inFlush)

/-- segments waiting in transport state will be flushed by somebody -/
def Pend (s : St) : Prop := (obs s).Q ≠ [] → (obs s).ps = .transport → Flushing s

structure Inv (s : St) : Prop where
  curP_last : s.curP + 1 = s.protos.length
  curQ_last : s.curQ + 1 = s.queues.length
  keys : DenseKeys s.queues
  /-- every connect starts one worker; none is ever removed -/
  workers_len : s.workers.length = s.conn
  slot : ∀ i w, s.workers[i]? = some w → Slot s i w
  env : Env (obs s)
  pend : Pend s

theorem Inv.worker_conn {s : St} {i : Nat} {w : Worker} (h : Inv s) (hi : s.workers[i]? = some w) : w.conn = i + 1 :=
  (h.slot i w hi).1

theorem Inv.stale {s : St} {i : Nat} {w : Worker} (h : Inv s) (hi : s.workers[i]? = some w)
    (hc : ¬(s.live = true ∧ i + 1 = s.conn)) : w.p < s.curP ∧ w.q < s.curQ :=
  (h.slot i w hi).2.1 hc

theorem Inv.cur {s : St} {i : Nat} {w : Worker} (h : Inv s) (hi : s.workers[i]? = some w) (hl : s.live = true)
    (hc : i + 1 = s.conn) : w.p = s.curP ∧ w.q = s.curQ ∧ Phase (obs s) w.pc :=
  (h.slot i w hi).2.2 hl hc

theorem Inv.curP_lt {s : St} (h : Inv s) : s.curP < s.protos.length := h.curP_last ▸ Nat.lt_succ_self _
theorem Inv.curQ_lt {s : St} (h : Inv s) : s.curQ < s.queues.length := h.curQ_last ▸ Nat.lt_succ_self _

theorem Inv.is_cur {s : St} (h : Inv s) {i : Nat} {w : Worker} (hi : s.workers[i]? = some w) (hp : w.p = s.curP) :
    s.live = true ∧ i + 1 = s.conn :=
  Classical.byContradiction fun hc => Nat.ne_of_lt (h.stale hi hc).1 hp

theorem Inv.objects_lt {s : St} (h : Inv s) {i : Nat} {w : Worker} (hi : s.workers[i]? = some w) :
    w.p < s.protos.length ∧ w.q < s.queues.length := by
  by_cases hc : s.live = true ∧ i + 1 = s.conn
  · obtain ⟨hp, hq, _⟩ := h.cur hi hc.1 hc.2
    exact ⟨hp ▸ h.curP_lt, hq ▸ h.curQ_lt⟩
  · exact ⟨Nat.lt_trans (h.stale hi hc).1 h.curP_lt, Nat.lt_trans (h.stale hi hc).2 h.curQ_lt⟩

theorem Inv.cur_worker {s : St} (h : Inv s) (hl : s.live = true) : ∃ i w, s.workers[i]? = some w ∧ i + 1 = s.conn := by
  obtain ⟨i, hi⟩ : ∃ i, s.conn = i + 1 := Nat.exists_eq_add_one.mpr (h.env.conn_pos hl)
  have hlt : i < s.workers.length := by rw [h.workers_len, hi]; exact Nat.lt_succ_self i
  exact ⟨i, s.workers[i], List.getElem?_eq_getElem hlt, hi.symm⟩

theorem Inv.post {s : St} (h : Inv s) (hl : s.live = true) (hps : pstate s ≠ .handshake) : Post (obs s) := by
  obtain ⟨i, w, hw, hc⟩ := h.cur_worker hl
  exact (h.cur hw hl hc).2.2.post hps

theorem Inv.post_of_transport {s : St} (h : Inv s) (hps : pstate s = .transport) : Post (obs s) :=
  h.post (live_of_ps (obs s) h.env (fun e => nomatch hps.symm.trans e)) (fun e => nomatch hps.symm.trans e)

/-- a disconnect leaves a fresh, empty queue -/
theorem Inv.live_of_queue {s : St} (h : Inv s) (hq : qGetL s.queues s.curQ ≠ []) : s.live = true := by
  cases hl : s.live with
  | true => rfl
  | false => exact absurd (h.env.notLive hl).2.2 hq

theorem Inv.bad_of_not_transport {s : St} (h : Inv s) (hl : s.live = true) (hps : pstate s ≠ .handshake)
    (hpt : pstate s ≠ .transport) : (obs s).good = false :=
  have hp := h.post hl hps
  hp.over.elim (fun ht => absurd ht hpt) hp.error

theorem obs_queues_cur (s : St) (q : Nat) (l : List Seg) (hq : q = s.curQ) :
    obs { s with queues := qSetL s.queues q l } = { obs s with Q := l } := by
  subst hq
  show Obs.mk _ _ (qGetL (qSetL s.queues s.curQ l) s.curQ) _ _ _ _ _ _ = _
  rw [qGetL_qSetL, if_pos rfl]; rfl

theorem obs_queues_other (s : St) (q : Nat) (l : List Seg) (hq : q ≠ s.curQ) :
    obs { s with queues := qSetL s.queues q l } = obs s := by
  show Obs.mk _ _ (qGetL (qSetL s.queues q l) s.curQ) _ _ _ _ _ _ = _
  rw [qGetL_qSetL, if_neg (fun e => hq e.symm)]; rfl

theorem obs_protos_cur (s : St) (p : Nat) (x : Proto) (hp : p = s.curP) (h : s.curP < s.protos.length) :
    obs { s with protos := s.protos.set p x } = { obs s with ps := x.state, key := x.keyOf } := by
  subst hp
  show Obs.mk ((s.protos.set s.curP x).getD s.curP {}).state ((s.protos.set s.curP x).getD s.curP {}).keyOf _ _ _ _ _ _ _ = _
  rw [getD_set, if_pos ⟨rfl, h⟩]; rfl

theorem obs_protos_other (s : St) (p : Nat) (x : Proto) (hp : p ≠ s.curP) :
    obs { s with protos := s.protos.set p x } = obs s := by
  show Obs.mk ((s.protos.set p x).getD s.curP {}).state ((s.protos.set p x).getD s.curP {}).keyOf _ _ _ _ _ _ _ = _
  rw [getD_set, if_neg (fun e => hp e.1)]; rfl

theorem Pend_of_quiet {s : St} {o : Obs} (ho : obs s = o) (hq : o.Q = [] ∨ o.ps ≠ .transport) : Pend s := by
  subst ho
  intro h1 h2
  exact hq.elim (fun hq => absurd hq h1) (fun hq => absurd h2 hq)

/-- what only `connect` and `disconnect` change: the current objects, the connection number, whether it is up -/
def St.attempt (s : St) : Nat × Nat × Nat × Bool := (s.curP, s.curQ, s.conn, s.live)

/-- for a step that neither opens nor closes a connection; `o'` is the observable part afterwards -/
theorem Inv_of {s s' : St} {o' : Obs} (h : Inv s) (ho : obs s' = o')
    (hP : s'.protos.length = s.protos.length) (hQ : s'.queues.length = s.queues.length ∧ DenseKeys s'.queues)
    (hat : s'.attempt = s.attempt)
    (hwl : s'.workers.length = s.workers.length)
    (hw : ∀ j w', s'.workers[j]? = some w' → ∃ w, s.workers[j]? = some w ∧ w'.conn = w.conn ∧ w'.p = w.p ∧ w'.q = w.q ∧
            (s.live = true → j + 1 = s.conn → Phase (obs s) w.pc → Phase o' w'.pc))
    (henv : Env o') (hpend : Pend s') : Inv s' := by
  subst ho
  simp only [St.attempt, Prod.mk.injEq] at hat
  obtain ⟨hcp, hcq, hconn, hlive⟩ := hat
  refine ⟨by rw [hcp, hP]; exact h.curP_last, by rw [hcq, hQ.1]; exact h.curQ_last, hQ.2, by rw [hwl, hconn]; exact h.workers_len, ?_, henv, hpend⟩
  intro j w' hj
  obtain ⟨w, h1, h2, h3, h4, h5⟩ := hw j w' hj
  obtain ⟨a, b, c⟩ := h.slot j w h1
  unfold Slot
  rw [h2, h3, h4, hcp, hcq, hlive, hconn]
  exact ⟨a, b, fun hl hc => ⟨(c hl hc).1, (c hl hc).2.1, h5 hl hc (c hl hc).2.2⟩⟩

theorem Inv_of_same_workers {s s' : St} {o' : Obs} (h : Inv s) (ho : obs s' = o')
    (hP : s'.protos.length = s.protos.length) (hQ : s'.queues.length = s.queues.length ∧ DenseKeys s'.queues)
    (hat : s'.attempt = s.attempt)
    (hw : s'.workers = s.workers)
    (hph : s.live = true → ∀ pc, Phase (obs s) pc → Phase o' pc)
    (henv : Env o') (hpend : Pend s') : Inv s' := by
  refine Inv_of h ho hP hQ hat (by rw [hw]) ?_ henv hpend
  intro j w' hj
  rw [hw] at hj
  exact ⟨w', hj, rfl, rfl, rfl, fun hl _ hp => hph hl _ hp⟩

theorem Inv_of_cur {s s' : St} {o' : Obs} {i : Nat} {w : Worker} (pc' : WPc) (h : Inv s) (hi : s.workers[i]? = some w)
    (hc : i + 1 = s.conn) (ho : obs s' = o')
    (hP : s'.protos.length = s.protos.length) (hQ : s'.queues.length = s.queues.length ∧ DenseKeys s'.queues)
    (hat : s'.attempt = s.attempt)
    (hw : s'.workers = s.workers.set i { w with pc := pc' })
    (hphi : Phase o' pc') (henv : Env o') (hpend : Pend s') : Inv s' := by
  refine Inv_of h ho hP hQ hat (by rw [hw]; exact List.length_set ..) ?_ henv hpend
  rw [hw]
  exact forall_getElem?_set ⟨w, hi, rfl, rfl, rfl, fun _ _ _ => hphi⟩
    (fun j w' hji hj => ⟨w', hj, rfl, rfl, rfl, fun _ hjc _ => absurd (Nat.succ.inj (hjc.trans hc.symm)) hji⟩)

theorem Inv_congr {s s' : St} (h : Inv s) (ho : obs s' = obs s)
    (hP : s'.protos.length = s.protos.length) (hQ : s'.queues.length = s.queues.length ∧ DenseKeys s'.queues)
    (hat : s'.attempt = s.attempt) (hw : s'.workers = s.workers) : Inv s' := by
  refine Inv_of_same_workers h ho hP hQ hat hw (fun _ _ hp => hp) h.env ?_
  intro h1 h2
  rw [ho] at h1 h2
  rcases h.pend h1 h2 with h3 | ⟨j, wj, hj, hpc⟩
  · exact Or.inl (fun e => h3 ((congrArg Obs.npc ho).symm.trans e))
  · exact Or.inr ⟨j, wj, by rw [hw]; exact hj, hpc⟩

theorem Inv_flushHeld {s : St} (b : Bool) (h : Inv s) : Inv { s with flushHeld := b } :=
  Inv_congr h rfl rfl ⟨rfl, h.keys⟩ rfl rfl

theorem Inv_protos_other {s : St} (h : Inv s) (p : Nat) (x : Proto) (hp : p ≠ s.curP) :
    Inv { s with protos := s.protos.set p x } :=
  Inv_congr h (obs_protos_other s p x hp) (List.length_set ..) ⟨rfl, h.keys⟩ rfl rfl

theorem Inv_queues_other {s : St} (h : Inv s) (q : Nat) (l : List Seg) (hq : q < s.curQ) :
    Inv { s with queues := qSetL s.queues q l } :=
  Inv_congr h (obs_queues_other s q l (Nat.ne_of_lt hq)) rfl (DenseKeys_qSetL _ _ _ h.keys (Nat.lt_trans hq h.curQ_lt))
    rfl rfl

theorem Inv_npc {s : St} (n : NPc) (h : Inv s) (h1 : s.live = false → n = .idle ∨ n = .inFlush)
    (h2 : n = .wantFlush ∨ n = .inFlush → pstate s ≠ .handshake)
    (h3 : n = .idle → (obs s).Q = [] ∨ (obs s).ps ≠ .transport) : Inv { s with npc := n } :=
  Inv_of_same_workers h rfl rfl ⟨rfl, h.keys⟩ rfl rfl (fun _ _ hp => hp.mono rfl rfl (fun _ e => e) (Post_npc (obs s) n))
    (Env_npc (obs s) n h.env h1 h2)
    (if hn : n = .idle then Pend_of_quiet rfl (h3 hn) else fun _ _ => Or.inl hn)

theorem Inv_raise {s : St} (h : Inv s) (hb : (obs s).good = false) : Inv { s with up := s.up ++ [.raised] } :=
  Inv_of_same_workers h rfl rfl ⟨rfl, h.keys⟩ rfl rfl
    (fun _ pc hp => Phase_up_other (obs s) .raised rfl pc hp) (Env_up_other (obs s) .raised h.env rfl (fun _ => hb)) (fun h1 h2 => h.pend h1 h2)

theorem Inv_setPc {s : St} {i : Nat} {w : Worker} (pc' : WPc) (h : Inv s) (hi : s.workers[i]? = some w)
    (hphi : s.live = true → i + 1 = s.conn → Phase (obs s) w.pc → Phase (obs s) pc')
    (hkeep : (w.pc = .wantFlush ∨ w.pc = .inFlush) →
      (pc' = .wantFlush ∨ pc' = .inFlush) ∨ (obs s).Q = [] ∨ (obs s).ps ≠ .transport) :
    Inv { s with workers := s.workers.set i { w with pc := pc' } } := by
  obtain ⟨hil, _⟩ := List.getElem?_eq_some_iff.mp hi
  refine Inv_of h rfl rfl ⟨rfl, h.keys⟩ rfl (List.length_set ..) ?_ h.env ?_
  · exact forall_getElem?_set ⟨w, hi, rfl, rfl, rfl, hphi⟩ (fun j w' _ hj => ⟨w', hj, rfl, rfl, rfl, fun _ _ hp => hp⟩)
  · intro h1 h2
    rcases h.pend h1 h2 with h3 | ⟨j, wj, hj, hpc⟩
    · exact Or.inl h3
    · by_cases hji : j = i
      · subst hji
        rw [hi] at hj; cases hj
        rcases hkeep hpc with hk | hk | hk
        · exact Or.inr ⟨j, { w with pc := pc' }, List.getElem?_set_self hil, hk⟩
        · exact absurd hk h1
        · exact absurd h2 hk
      · exact Or.inr ⟨j, wj, (List.getElem?_set_ne (fun e => hji e.symm)).trans hj, hpc⟩

end Yow.HS
