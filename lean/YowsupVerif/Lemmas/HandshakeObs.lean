/-
  The observable part of a state of Model/Handshake.lean (the CURRENT protocol object and queue, the environment's
  history, what went upward) and the invariant over it, with its preservation under the abstract effects of the actions.
  No worker tables here.
-/
import YowsupVerif.Lemmas.HandshakeTables
namespace Yow.HS

structure Obs where
  ps : PState
  key : Option Nat
  Q : List Seg
  conn : Nat
  arrived : List Seg
  up : List Up
  live : Bool
  helloSeen : Bool
  npc : NPc

def obs (s : St) : Obs :=
  { ps := pstate s, key := keyOf s, Q := qGetL s.queues s.curQ, conn := s.conn, arrived := s.arrived, up := s.up,
    live := s.live, helloSeen := s.helloSeen, npc := s.npc }

namespace Obs

/-! `framesCur`, `upFrames`, `upFramesCur`, `good` are the model's `framesOfConn`, `framesUp`, `framesUpOfConn`, `allGood`. -/

def arrivedCur (o : Obs) : List Seg := o.arrived.filter (fun sg => sg.conn == o.conn)
def framesCur (o : Obs) : List Seg := o.arrived.filter (fun sg => sg.kind == .frame && sg.conn == o.conn)
def upFrames (up : List Up) : List Seg := up.filterMap (fun u => match u with | .frame sg => some sg | _ => none)
def upFramesCur (o : Obs) : List Seg := (upFrames o.up).filter (fun sg => sg.conn == o.conn)
def good (o : Obs) : Bool := o.arrived.all (·.good)
def noRaise (o : Obs) : Bool := o.up.all (fun u => u != .raised)

/-- the current handshake is over -/
structure Post (o : Obs) : Prop where
  over : o.ps = .transport ∨ o.ps = .error
  reply : ∃ h t, o.arrivedCur = h :: t ∧ (h.good = false → o.ps = .error ∧ Up.failure o.conn ∈ o.up)
  transport : o.ps = .transport → o.key = some o.conn ∧ o.upFramesCur ++ o.Q = o.framesCur
  error : o.ps = .error → o.good = false

/-- the current objects, as seen from the program counter of the current connection's worker -/
def Phase (o : Obs) : WPc → Prop
  | .reading => o.ps = .handshake ∧ o.Q = o.arrivedCur ∧ o.upFramesCur = []
  | .finishing ok => o.ps = .handshake ∧ o.upFramesCur = [] ∧ ∃ h, o.arrivedCur = h :: o.Q ∧ ok = h.good
  | _ => Post o

/-- what the environment (network, server, connect / disconnect history) guarantees, whatever the workers do -/
structure Env (o : Obs) : Prop where
  hello0 : o.live = true → o.helloSeen = false → o.arrivedCur = []
  hello1 : o.live = true → o.helloSeen = true → ∃ h, h.kind = .hello ∧ o.arrivedCur = h :: o.framesCur
  /-- `inFlush`: still inside the flush loop in which a re-entrant disconnect was issued (it will find the fresh queue
      empty and leave) -/
  notLive : o.live = false → (o.npc = .idle ∨ o.npc = .inFlush) ∧ o.ps = .init ∧ o.Q = []
  netFlush : o.npc = .wantFlush ∨ o.npc = .inFlush → o.ps ≠ .handshake
  upPrefix : o.upFramesCur <+: o.framesCur
  quiet : o.good = true → o.noRaise = true
  up_conn_le : ∀ sg ∈ upFrames o.up, sg.conn ≤ o.conn
  arrived_conn_le : ∀ sg ∈ o.arrived, sg.conn ≤ o.conn
  conn_pos : o.live = true → 1 ≤ o.conn

theorem upFrames_append (a b : List Up) : upFrames (a ++ b) = upFrames a ++ upFrames b := List.filterMap_append

theorem upFrames_snoc_other (up : List Up) (u : Up) (hu : upFrames [u] = []) : upFrames (up ++ [u]) = upFrames up := by
  rw [upFrames_append, hu, List.append_nil]

theorem upFramesCur_snoc_other (o : Obs) (u : Up) (hu : upFrames [u] = []) : upFramesCur { o with up := o.up ++ [u] } = o.upFramesCur :=
  congrArg (List.filter fun sg : Seg => sg.conn == o.conn) (upFrames_snoc_other o.up u hu)

theorem upFramesCur_snoc_frame (o : Obs) (sg : Seg) (q : List Seg) (hc : sg.conn = o.conn) :
    upFramesCur { o with Q := q, up := o.up ++ [.frame sg] } = o.upFramesCur ++ [sg] := by
  show (upFrames (o.up ++ [.frame sg])).filter (fun x => x.conn == o.conn) = _
  rw [upFrames_append, List.filter_append]
  exact congrArg (o.upFramesCur ++ ·) (List.filter_cons_of_pos (beq_iff_eq.mpr hc))

theorem framesCur_sub (o : Obs) (sg : Seg) (h : sg ∈ o.framesCur) : sg.kind = .frame ∧ sg.conn = o.conn ∧ sg ∈ o.arrived := by
  simp only [framesCur, List.mem_filter, Bool.and_eq_true, beq_iff_eq] at h
  exact ⟨h.2.1, h.2.2, h.1⟩

theorem framesCur_eq_filter (o : Obs) : o.framesCur = o.arrivedCur.filter (fun sg => sg.kind == .frame) := by
  simp only [framesCur, arrivedCur, List.filter_filter]

theorem mem_arrivedCur (o : Obs) (sg : Seg) : sg ∈ o.arrivedCur ↔ sg ∈ o.arrived ∧ sg.conn = o.conn := by
  simp only [arrivedCur, List.mem_filter, beq_iff_eq]

theorem bad_of_mem (o : Obs) (sg : Seg) (hm : sg ∈ o.arrived) (hb : sg.good = false) : o.good = false := by
  cases hg : o.good with
  | false => rfl
  | true => exact absurd ((List.all_eq_true.mp hg sg hm).symm.trans hb) (by decide)

/-- once the handshake is over, the program counter is past it, where the phase is `Post` -/
theorem Phase.past {o : Obs} {pc : WPc} (hp : Phase o pc) (hps : o.ps ≠ .handshake) (o' : Obs) : Phase o' pc = Post o' := by
  cases pc with
  | reading => exact absurd hp.1 hps
  | finishing ok => exact absurd hp.1 hps
  | wantFlush | inFlush | done => rfl

theorem Phase.post {o : Obs} {pc : WPc} (hp : Phase o pc) (hps : o.ps ≠ .handshake) : Post o := hp.past hps o ▸ hp

theorem Phase.of_post {o o' : Obs} {pc : WPc} (hp : Phase o pc) (hps : o.ps ≠ .handshake) (h' : Post o') : Phase o' pc :=
  hp.past hps o' ▸ h'

theorem Phase.mono {o o' : Obs} {pc : WPc} (hp : Phase o pc) (hps : o'.ps = o.ps) (hup : o'.upFramesCur = o.upFramesCur)
    (hQ : ∀ t, o.arrivedCur = t ++ o.Q → o'.arrivedCur = t ++ o'.Q) (hpost : Post o → Post o') : Phase o' pc := by
  cases pc with
  | reading => exact ⟨hps.trans hp.1, (hQ [] hp.2.1.symm).symm, hup.trans hp.2.2⟩
  | finishing ok =>
    obtain ⟨h1, h2, hd, h3, h4⟩ := hp
    exact ⟨hps.trans h1, hup.trans h2, hd, hQ [hd] h3, h4⟩
  | wantFlush | inFlush | done => exact hpost hp

theorem Post_npc (o : Obs) (n : NPc) (h : Post o) : Post { o with npc := n } := ⟨h.over, h.reply, h.transport, h.error⟩

theorem Env_npc (o : Obs) (n : NPc) (h : Env o) (h1 : o.live = false → n = .idle ∨ n = .inFlush)
    (h2 : n = .wantFlush ∨ n = .inFlush → o.ps ≠ .handshake) : Env { o with npc := n } :=
  { h with notLive := fun hl => ⟨h1 hl, (h.notLive hl).2⟩, netFlush := h2 }

theorem live_of_ps (o : Obs) (h : Env o) (hps : o.ps ≠ .init) : o.live = true := by
  cases hl : o.live with
  | true => rfl
  | false => exact absurd (h.notLive hl).2.1 hps

theorem arrivedCur_ne_nil (o : Obs) (h : Env o) (hl : o.live = true) (hne : o.arrivedCur ≠ []) :
    o.helloSeen = true ∧ ∃ hd, hd.kind = .hello ∧ o.arrivedCur = hd :: o.framesCur := by
  cases hh : o.helloSeen with
  | false => exact absurd (h.hello0 hl hh) hne
  | true => exact ⟨rfl, h.hello1 hl hh⟩

theorem Env_up (o : Obs) (u : Up) (h : Env o) (hpre : upFramesCur { o with up := o.up ++ [u] } <+: o.framesCur)
    (hr : u = .raised → o.good = false) (hc : ∀ sg ∈ upFrames [u], sg.conn ≤ o.conn) :
    Env { o with up := o.up ++ [u] } := by
  refine { h with upPrefix := hpre, quiet := fun hg => ?_, up_conn_le := ?_ }
  · show (o.up ++ [u]).all (fun u => u != .raised) = true
    rw [List.all_append, show o.up.all (fun u => u != .raised) = true from h.quiet hg]
    cases u with
    | raised => exact absurd (hg.symm.trans (hr rfl)) (by decide)
    | frame sg => rfl
    | failure c => rfl
  · show ∀ sg ∈ upFrames (o.up ++ [u]), _
    rw [upFrames_append]
    exact fun x hx => (List.mem_append.mp hx).elim (h.up_conn_le x) (hc x)

theorem Env_up_other (o : Obs) (u : Up) (h : Env o) (hu : upFrames [u] = []) (hr : u = .raised → o.good = false) :
    Env { o with up := o.up ++ [u] } :=
  Env_up o u h (upFramesCur_snoc_other o u hu ▸ h.upPrefix) hr (fun sg hs => by rw [hu] at hs; cases hs)

theorem Post_up (o : Obs) (u : Up) (q : List Seg) (h : Post o)
    (hq : o.ps = .transport → upFramesCur { o with Q := q, up := o.up ++ [u] } ++ q = o.framesCur) :
    Post { o with Q := q, up := o.up ++ [u] } := by
  obtain ⟨hd, t, h1, h3⟩ := h.reply
  exact { h with reply := ⟨hd, t, h1, fun hb => ⟨(h3 hb).1, List.mem_append_left _ (h3 hb).2⟩⟩,
                 transport := fun ht => ⟨(h.transport ht).1, hq ht⟩ }

theorem Post_up_other (o : Obs) (u : Up) (hu : upFrames [u] = []) (h : Post o) : Post { o with up := o.up ++ [u] } :=
  Post_up o u o.Q h (fun ht => (upFramesCur_snoc_other o u hu ▸ (h.transport ht).2 :))

theorem Phase_up_other (o : Obs) (u : Up) (hu : upFrames [u] = []) (pc : WPc) (h : Phase o pc) :
    Phase { o with up := o.up ++ [u] } pc :=
  h.mono rfl (upFramesCur_snoc_other o u hu) (fun _ e => e) (Post_up_other o u hu)

theorem Env_cur (o : Obs) (x : PState) (k : Option Nat) (q : List Seg) (h : Env o) (hl : o.live = true)
    (hx : o.npc = .wantFlush ∨ o.npc = .inFlush → x ≠ .handshake) : Env { o with ps := x, key := k, Q := q } :=
  { h with notLive := fun hn => absurd (hl.symm.trans hn) (by decide), netFlush := hx }

/-- what `Allowed` asks of an arriving segment -/
def Expected (o : Obs) (sg : Seg) : Prop := (sg.kind = .hello ∧ o.helloSeen = false) ∨ (sg.kind = .frame ∧ o.helloSeen = true)

def arriveO (o : Obs) (sg : Seg) : Obs :=
  { o with Q := o.Q ++ [sg], npc := .check, arrived := o.arrived ++ [sg], helloSeen := o.helloSeen || sg.kind == .hello }

theorem arrivedCur_arrive (o : Obs) (sg : Seg) (hc : sg.conn = o.conn) : (arriveO o sg).arrivedCur = o.arrivedCur ++ [sg] := by
  simp [arriveO, arrivedCur, List.filter_append, hc]

theorem framesCur_arrive_frame (o : Obs) (sg : Seg) (hc : sg.conn = o.conn) (hk : sg.kind = .frame) : (arriveO o sg).framesCur = o.framesCur ++ [sg] := by
  simp [arriveO, framesCur, List.filter_append, hc, hk]

theorem framesCur_arrive_hello (o : Obs) (sg : Seg) (hk : sg.kind = .hello) : (arriveO o sg).framesCur = o.framesCur := by
  simp [arriveO, framesCur, List.filter_append, hk]

theorem Env_arrive (o : Obs) (sg : Seg) (h : Env o) (hl : o.live = true) (hc : sg.conn = o.conn)
    (hk : Expected o sg) : Env (arriveO o sg) := by
  refine { h with hello0 := ?_, hello1 := ?_, notLive := ?_, netFlush := ?_, upPrefix := ?_, quiet := ?_, arrived_conn_le := ?_ }
  · intro _ hh
    have hh' : (o.helloSeen || sg.kind == .hello) = false := hh
    rcases hk with ⟨hk, _⟩ | ⟨_, hs⟩
    · rw [hk] at hh'; simp at hh'
    · rw [hs] at hh'; cases hh'
  · intro _ _
    rw [arrivedCur_arrive o sg hc]
    rcases hk with ⟨hk, hs⟩ | ⟨hk, hs⟩
    · rw [framesCur_arrive_hello o sg hk, framesCur_eq_filter, h.hello0 hl hs]
      exact ⟨sg, hk, rfl⟩
    · obtain ⟨hd, hd1, hd2⟩ := h.hello1 hl hs
      rw [framesCur_arrive_frame o sg hc hk, hd2]
      exact ⟨hd, hd1, rfl⟩
  · intro hn; exact absurd (hl.symm.trans hn) (by decide)
  · intro hn; rcases hn with hn | hn <;> cases hn
  · show o.upFramesCur <+: (arriveO o sg).framesCur
    rcases hk with ⟨hk, _⟩ | ⟨hk, _⟩
    · rw [framesCur_arrive_hello o sg hk]; exact h.upPrefix
    · rw [framesCur_arrive_frame o sg hc hk]; exact h.upPrefix.trans (List.prefix_append _ _)
  · intro hg
    have hg' : (o.arrived ++ [sg]).all (·.good) = true := hg
    rw [List.all_append, Bool.and_eq_true] at hg'
    exact h.quiet hg'.1
  · intro x hx
    rcases List.mem_append.mp hx with hx' | hx'
    · exact h.arrived_conn_le x hx'
    · rw [List.mem_singleton.mp hx']; exact Nat.le_of_eq hc

/-- the reply is there already, so what arrives is a frame and joins the queue -/
theorem Post_arrive (o : Obs) (sg : Seg) (h : Env o) (hl : o.live = true) (hc : sg.conn = o.conn)
    (hk : Expected o sg) (hp : Post o) :
    Post (arriveO o sg) := by
  obtain ⟨hd, t, h1, h3⟩ := hp.reply
  have hs := (arrivedCur_ne_nil o h hl (by rw [h1]; exact List.cons_ne_nil _ _)).1
  have hkf : sg.kind = .frame := by
    rcases hk with ⟨_, hs'⟩ | ⟨hk, _⟩
    · rw [hs] at hs'; cases hs'
    · exact hk
  refine ⟨hp.over, ⟨hd, t ++ [sg], ?_, h3⟩, fun ht => ⟨(hp.transport ht).1, ?_⟩, fun he => ?_⟩
  · rw [arrivedCur_arrive o sg hc, h1]; rfl
  · rw [framesCur_arrive_frame o sg hc hkf, ← (hp.transport ht).2]
    exact (List.append_assoc _ _ _).symm
  · show (o.arrived ++ [sg]).all (·.good) = false
    rw [List.all_append, show o.arrived.all (·.good) = false from hp.error he]; rfl

theorem Phase_arrive (o : Obs) (sg : Seg) (h : Env o) (hl : o.live = true) (hc : sg.conn = o.conn)
    (hk : Expected o sg) (pc : WPc) (hp : Phase o pc) :
    Phase (arriveO o sg) pc :=
  hp.mono rfl rfl (fun t e => by rw [arrivedCur_arrive o sg hc, e]; exact List.append_assoc ..) (Post_arrive o sg h hl hc hk)

theorem flush_head (o : Obs) (sg : Seg) (rest : List Seg) (hQ : o.Q = sg :: rest) (hps : o.ps = .transport) (hpost : Post o) :
    o.key = some o.conn ∧ o.upFramesCur ++ sg :: rest = o.framesCur ∧ sg.kind = .frame ∧ sg.conn = o.conn ∧ sg ∈ o.arrived := by
  have h6 := (hpost.transport hps).2
  rw [hQ] at h6
  exact ⟨(hpost.transport hps).1, h6, framesCur_sub o sg (by rw [← h6]; exact List.mem_append_right _ (List.mem_cons_self ..))⟩

theorem Env_deliver (o : Obs) (sg : Seg) (rest : List Seg) (h : Env o) (hQ : o.Q = sg :: rest) (hps : o.ps = .transport)
    (hpost : Post o) : Env { o with Q := rest, up := o.up ++ [.frame sg] } := by
  have hl : o.live = true := live_of_ps o h (by rw [hps]; decide)
  obtain ⟨hk, hf, _, hc, _⟩ := flush_head o sg rest hQ hps hpost
  refine Env_cur { o with up := o.up ++ [.frame sg] } o.ps o.key rest (Env_up o (.frame sg) h ?_ (fun e => nomatch e) ?_) hl
    h.netFlush
  · rw [upFramesCur_snoc_frame o sg o.Q hc, ← hf]
    exact ⟨rest, (List.append_assoc _ _ _)⟩
  · intro x hx
    cases List.mem_singleton.mp hx; exact Nat.le_of_eq hc

theorem Post_deliver (o : Obs) (sg : Seg) (rest : List Seg) (hQ : o.Q = sg :: rest) (hps : o.ps = .transport)
    (hpost : Post o) : Post { o with Q := rest, up := o.up ++ [.frame sg] } := by
  obtain ⟨_, hf, _, hc, _⟩ := flush_head o sg rest hQ hps hpost
  refine Post_up o (.frame sg) rest hpost (fun _ => ?_)
  rw [upFramesCur_snoc_frame o sg rest hc, ← hf, List.append_assoc]; rfl

theorem bad_of_undecryptable (o : Obs) (sg : Seg) (rest : List Seg) (hQ : o.Q = sg :: rest) (hps : o.ps = .transport)
    (hpost : Post o) (hc : (sg.kind == .frame && sg.good && o.key == some sg.conn) = false) : o.good = false := by
  obtain ⟨hk, _, hkf, hcn, hm⟩ := flush_head o sg rest hQ hps hpost
  refine bad_of_mem o sg hm ?_
  rw [hkf, hk, hcn] at hc
  simpa using hc

theorem Post_error (o : Obs) (q : List Seg) (hps : o.ps = .transport) (hb : o.good = false) (hpost : Post o) :
    Post { o with Q := q, ps := .error } := by
  obtain ⟨hd, t, h1, h3⟩ := hpost.reply
  refine ⟨Or.inr rfl, ⟨hd, t, h1, fun hbd => ?_⟩, fun ht => (by cases ht), fun _ => hb⟩
  have := (h3 hbd).1; rw [hps] at this; cases this

def connectO (o : Obs) : Obs := { o with conn := o.conn + 1, live := true, helloSeen := false, ps := .handshake, key := none }

theorem Env_connect (o : Obs) (h : Env o) (hl : o.live = false) (hi : o.npc = .idle) :
    Env (connectO o) ∧ Phase (connectO o) .reading := by
  -- nothing has arrived or gone upward on the new connection yet
  have hnone : ∀ l : List Seg, (∀ sg ∈ l, sg.conn ≤ o.conn) → l.filter (fun sg => sg.conn == o.conn + 1) = [] := by
    intro l hle
    rw [List.filter_eq_nil_iff]
    intro x hx e
    exact Nat.not_succ_le_self o.conn (Nat.le_trans (Nat.le_of_eq (beq_iff_eq.mp e).symm) (hle x hx))
  have hac : (connectO o).arrivedCur = [] := hnone o.arrived h.arrived_conn_le
  have hup : (connectO o).upFramesCur = [] := hnone (upFrames o.up) h.up_conn_le
  refine ⟨{ hello0 := fun _ _ => hac, hello1 := fun _ hh => (by cases hh), notLive := fun hn => (by cases hn),
            netFlush := ?_, upPrefix := ?_, quiet := h.quiet, up_conn_le := ?_, arrived_conn_le := ?_, conn_pos := fun _ => Nat.le_add_left _ _ }, rfl, ?_, hup⟩
  · intro hx
    have hx' : o.npc = .wantFlush ∨ o.npc = .inFlush := hx
    rw [hi] at hx'; rcases hx' with hx' | hx' <;> cases hx'
  · rw [hup]; exact List.nil_prefix
  · intro x hx; exact Nat.le_succ_of_le (h.up_conn_le x hx)
  · intro x hx; exact Nat.le_succ_of_le (h.arrived_conn_le x hx)
  · rw [hac]; exact (h.notLive hl).2.2

theorem Env_disconnect (o : Obs) (h : Env o) (hi : o.npc = .idle ∨ o.npc = .inFlush) :
    Env { o with live := false, ps := .init, key := none, Q := [] } :=
  { h with hello0 := fun hn => (by cases hn), hello1 := fun hn => (by cases hn), notLive := fun _ => ⟨hi, rfl, rfl⟩,
           netFlush := fun _ => (by decide : PState.init ≠ .handshake), conn_pos := fun hn => (by cases hn) }

theorem Phase_read (o : Obs) (sg : Seg) (rest : List Seg) (c : Nat) (hcn : c = o.conn) (h : Env o) (hl : o.live = true)
    (hp : Phase o .reading) (hQ : o.Q = sg :: rest) :
    Phase { o with Q := rest } (.finishing (sg.kind == .hello && sg.good && sg.conn == c)) := by
  subst hcn
  obtain ⟨h1, h2, h3⟩ := hp
  rw [hQ] at h2
  obtain ⟨_, hd, hd1, hd2⟩ := arrivedCur_ne_nil o h hl (by rw [← h2]; exact List.cons_ne_nil _ _)
  -- the head of the queue is the server's reply on this connection
  have hsg : sg = hd := by rw [← h2] at hd2; exact (List.cons.inj hd2).1
  have hc : sg.conn = o.conn := ((mem_arrivedCur o sg).mp (by rw [← h2]; exact List.mem_cons_self ..)).2
  refine ⟨h1, h3, sg, h2.symm, ?_⟩
  rw [hsg, hd1, ← hsg, hc]; simp

theorem Post_finish_ok (o : Obs) (c : Nat) (hcn : c = o.conn) (h : Env o) (hl : o.live = true) (hp : Phase o (.finishing true)) :
    Post { o with ps := .transport, key := some c } := by
  subst hcn
  obtain ⟨h1, h2, hd, h3, h4⟩ := hp
  obtain ⟨_, hd', _, hd2⟩ := arrivedCur_ne_nil o h hl (by rw [h3]; exact List.cons_ne_nil _ _)
  -- what waits in the queue behind the reply are exactly the frames that arrived during the handshake
  have hq : o.Q = o.framesCur := by rw [h3] at hd2; exact (List.cons.inj hd2).2
  refine ⟨Or.inl rfl, ⟨hd, o.Q, h3, fun hb => ?_⟩, fun _ => ⟨rfl, ?_⟩, fun he => (by cases he)⟩
  · rw [← h4] at hb; cases hb
  · show o.upFramesCur ++ o.Q = o.framesCur
    rw [h2, hq]; rfl

theorem Post_finish_fail (o : Obs) (c : Nat) (k : Option Nat) (hcn : c = o.conn) (hp : Phase o (.finishing false)) :
    o.good = false ∧ Post { o with ps := .error, key := k, up := o.up ++ [.failure c] } := by
  subst hcn
  obtain ⟨h1, h2, hd, h3, h4⟩ := hp
  have hb : o.good = false :=
    bad_of_mem o hd ((mem_arrivedCur o hd).mp (by rw [h3]; exact List.mem_cons_self ..)).1 h4.symm
  exact ⟨hb, Or.inr rfl, ⟨hd, o.Q, h3, fun _ => ⟨rfl, List.mem_append_right _ (List.mem_singleton.mpr rfl)⟩⟩,
    fun ht => (by cases ht), fun _ => hb⟩

end Obs
end Yow.HS
