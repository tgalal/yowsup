/-
  The invariant of Lemmas/HandshakeInv.lean is preserved by every allowed action of the network thread and of the
  handshake workers, hence holds after every allowed run.  Each action is rewritten by its equation
  (Lemmas/HandshakeStep.lean) and the invariant re-established by one of `Inv_of…` from the action's effect on the
  observable part (Lemmas/HandshakeObs.lean).  The flush loop, which both kinds of thread run, is treated once: `Inv_flushOne`.
-/
import YowsupVerif.Lemmas.HandshakeInv
import YowsupVerif.Lemmas.HandshakeStep
namespace Yow.HS
open Obs

theorem Inv_deliver {s : St} (h : Inv s) (sg : Seg) (rest : List Seg) (hQ : qGetL s.queues s.curQ = sg :: rest)
    (hpt : pstate s = .transport) (hf : Flushing s) :
    Inv { s with queues := qSetL s.queues s.curQ rest, up := s.up ++ [.frame sg] } :=
  have hpost := h.post_of_transport hpt
  Inv_of_same_workers h (obs_queues_cur { s with up := s.up ++ [.frame sg] } s.curQ rest rfl) rfl
    (DenseKeys_qSetL _ _ _ h.keys h.curQ_lt) rfl rfl
    (fun _ _ hp => hp.of_post (fun e => nomatch hpt.symm.trans e) (Post_deliver (obs s) sg rest hQ hpt hpost))
    (Env_deliver (obs s) sg rest h.env hQ hpt hpost) (fun _ _ => hf)

theorem Inv_undecryptable {s : St} (h : Inv s) (sg : Seg) (rest : List Seg) (hQ : qGetL s.queues s.curQ = sg :: rest)
    (hpt : pstate s = .transport) (hc : (sg.kind == .frame && sg.good && keyOf s == some sg.conn) = false) :
    ∃ s1, flushOne s = (s1, .undecryptable) ∧ s1.workers = s.workers ∧ Inv s1 ∧ (obs s1).ps ≠ .transport ∧
      (obs s1).good = false := by
  have hpost := h.post_of_transport hpt
  have hl : s.live = true := live_of_ps (obs s) h.env (fun e => nomatch hpt.symm.trans e)
  have hb := bad_of_undecryptable (obs s) sg rest hQ hpt hpost hc
  have ho : obs { s with queues := qSetL s.queues s.curQ rest,
                         protos := s.protos.set s.curP { pGet s s.curP with state := .error } } =
      { obs s with ps := .error, key := (obs s).key, Q := rest } :=
    (obs_queues_cur { s with protos := s.protos.set s.curP { pGet s s.curP with state := .error } } s.curQ rest rfl).trans
      (congrArg (fun o : Obs => { o with Q := rest }) (obs_protos_cur s s.curP _ rfl h.curP_lt))
  refine ⟨_, flushOne_undecryptable s sg rest hQ hpt hc, rfl, ?_, fun e => (nomatch (congrArg Obs.ps ho).symm.trans e), hb⟩
  exact Inv_of_same_workers h ho (List.length_set ..) (DenseKeys_qSetL _ _ _ h.keys h.curQ_lt) rfl rfl
    (fun _ _ hp => hp.of_post (fun e => nomatch hpt.symm.trans e) (Post_error (obs s) rest hpt hb hpost))
    (Env_cur (obs s) .error _ rest h.env hl (fun _ e => nomatch e)) (Pend_of_quiet ho (Or.inr (fun e => nomatch e)))

/-- in every outcome but the first nothing is left for a flush to do -/
theorem Inv_flushOne {s : St} (h : Inv s) (hf : Flushing s) :
    (∃ s1, flushOne s = (s1, .delivered) ∧ Inv s1) ∨
    (flushOne s = (s, .empty) ∧ (obs s).Q = []) ∨
    (flushOne s = (s, .refused) ∧ s.live = true ∧ pstate s ≠ .transport) ∨
    (∃ s1, flushOne s = (s1, .undecryptable) ∧ s1.workers = s.workers ∧ Inv s1 ∧ (obs s1).ps ≠ .transport ∧
      (obs s1).good = false) := by
  cases hQ : qGetL s.queues s.curQ with
  | nil => exact Or.inr (Or.inl ⟨flushOne_empty s hQ, hQ⟩)
  | cons sg rest =>
    by_cases hpt : pstate s = .transport
    · cases hc : (sg.kind == .frame && sg.good && keyOf s == some sg.conn) with
      | true => exact Or.inl ⟨_, flushOne_delivered s sg rest hQ hpt hc, Inv_deliver h sg rest hQ hpt hf⟩
      | false => exact Or.inr (Or.inr (Or.inr (Inv_undecryptable h sg rest hQ hpt hc)))
    · exact Or.inr (Or.inr (Or.inl
        ⟨flushOne_refused s sg rest hQ hpt, h.live_of_queue (by rw [hQ]; exact List.cons_ne_nil _ _), hpt⟩))

theorem Inv_net_flush (cfg : Cfg) (s : St) (h : Inv s) (hn : s.npc = .inFlush) : Inv (step cfg s .net) := by
  have hidle : ∀ {s1 : St}, Inv s1 → (obs s1).Q = [] ∨ (obs s1).ps ≠ .transport →
      Inv { s1 with flushHeld := false, npc := .idle } :=
    fun h1 hq => Inv_flushHeld false (Inv_npc .idle h1 (fun _ => Or.inl rfl) (fun hx => absurd hx (by decide)) (fun _ => hq))
  rw [step_net_inFlush cfg s hn]
  rcases Inv_flushOne h (Or.inl (fun e => nomatch hn.symm.trans e)) with
    ⟨s1, e, h1⟩ | ⟨e, hq⟩ | ⟨e, hl, hpt⟩ | ⟨s1, e, _, h1, hq, hb⟩
  · rw [e]; exact h1
  · rw [e]; exact hidle h (Or.inl hq)
  · -- the flush was entered after the handshake, so a protocol object that refuses is in error state
    rw [e]; exact hidle (Inv_raise h (h.bad_of_not_transport hl (h.env.netFlush (Or.inr hn)) hpt)) (Or.inr hpt)
  · rw [e]; exact hidle (Inv_raise h1 hb) (Or.inr hq)

theorem Inv_net (cfg : Cfg) (s : St) (h : Inv s) : Inv (step cfg s .net) := by
  cases hn : s.npc with
  | idle => rw [step_net_idle cfg s hn]; exact h
  | check =>
    rw [step_net_check cfg s hn]
    by_cases hp : pstate s = .handshake
    · rw [if_pos hp]
      exact Inv_npc .idle h (fun _ => Or.inl rfl) (fun hx => absurd hx (by decide)) (fun _ => Or.inr fun e => nomatch hp.symm.trans e)
    · rw [if_neg hp]
      -- without a connection the network thread would be idle or inside the flush loop
      exact Inv_npc .wantFlush h
        (fun hf => (h.env.notLive hf).1.elim (fun e => nomatch hn.symm.trans e) (fun e => nomatch hn.symm.trans e))
        (fun _ => hp) (fun e => nomatch e)
  | wantFlush =>
    rw [step_net_wantFlush cfg s hn]
    by_cases hf : s.flushHeld = true
    · rw [if_pos hf]; exact h
    · rw [if_neg hf]
      exact Inv_flushHeld true (Inv_npc .inFlush h (fun _ => Or.inr rfl) (fun _ => h.env.netFlush (Or.inl hn)) (fun e => nomatch e))
  | inFlush => exact Inv_net_flush cfg s h hn

theorem Inv_arrive (cfg : Cfg) (s : St) (sg : Seg) (h : Inv s) (ha : Allowed s (.arrive sg) = true) :
    Inv (step cfg s (.arrive sg)) := by
  simp only [Allowed, Bool.and_eq_true, beq_iff_eq, decide_eq_true_eq] at ha
  obtain ⟨⟨⟨⟨hn, hl⟩, hc⟩, _⟩, hk⟩ := ha
  have hk' : Expected (obs s) sg := by
    cases hkk : sg.kind with
    | hello => rw [hkk] at hk; exact Or.inl ⟨hkk, show s.helloSeen = false by simpa using hk⟩
    | frame => rw [hkk] at hk; exact Or.inr ⟨hkk, hk⟩
  rw [step_arrive cfg s sg hn]
  exact Inv_of_same_workers h
    (obs_queues_cur { s with npc := .check, arrived := s.arrived ++ [sg], lastSerial := sg.serial,
                             helloSeen := s.helloSeen || sg.kind == .hello } s.curQ (qGetL s.queues s.curQ ++ [sg]) rfl)
    rfl (DenseKeys_qSetL _ _ _ h.keys h.curQ_lt) rfl rfl
    (fun _ pc hp => Phase_arrive (obs s) sg h.env hl hc hk' pc hp) (Env_arrive (obs s) sg h.env hl hc hk')
    (fun _ _ => Or.inl (fun e => nomatch e))

theorem Inv_connect (cfg : Cfg) (s : St) (h : Inv s) (ha : Allowed s .connect = true) : Inv (step cfg s .connect) := by
  simp only [Allowed, Bool.and_eq_true, beq_iff_eq, Bool.not_eq_true'] at ha
  obtain ⟨hn, hl⟩ := ha
  have hps : pstate s ≠ .handshake := fun e => nomatch (h.env.notLive hl).2.1.symm.trans e
  rw [step_connect cfg s hn hps]
  have ho := obs_protos_cur
    { s with conn := s.conn + 1, live := true, helloSeen := false,
             workers := s.workers ++ [{ conn := s.conn + 1, q := s.curQ, p := s.curP, pc := .reading }] }
    s.curP { state := .handshake, keyOf := none } rfl h.curP_lt
  obtain ⟨he, hph⟩ := Env_connect (obs s) h.env hl hn
  have hwl := h.workers_len
  refine ⟨(List.length_set ..).symm ▸ h.curP_last, h.curQ_last, h.keys, ?_, ?_, ho ▸ he, Pend_of_quiet ho (Or.inr (fun e => nomatch e))⟩
  · show (s.workers ++ [_]).length = s.conn + 1
    rw [List.length_append, hwl]; rfl
  · -- the new worker sits at index `s.conn`; all others belong to abandoned attempts
    intro j w' hj
    rcases getElem?_append_single_some _ _ _ _ hj with ⟨h1, h2⟩ | ⟨h1, h2⟩
    · subst h2
      have hj1 : s.conn + 1 = j + 1 := by rw [h1, hwl]
      exact ⟨hj1, fun hnc => absurd ⟨rfl, hj1.symm⟩ hnc, fun _ _ => ⟨rfl, rfl, ho ▸ hph⟩⟩
    · exact ⟨h.worker_conn h2, fun _ => h.stale h2 (fun hc => by rw [hl] at hc; cases hc.1),
        fun _ hc => absurd hc (Nat.ne_of_lt (Nat.succ_lt_succ (hwl ▸ h1)))⟩

theorem Inv_disconnect (s : St) (h : Inv s) (ha : Allowed s .disconnect = true) :
    Inv (step goodCfg s .disconnect) := by
  simp only [Allowed, Bool.and_eq_true, Bool.or_eq_true, beq_iff_eq] at ha
  obtain ⟨hn, hl⟩ := ha
  rw [step_disconnect s hn]
  have hQ : qGetL (s.queues ++ [(s.queues.length, [])]) s.queues.length = [] := by
    rw [qGetL_append_new, qGetL_length _ h.keys]
  have ho : obs { s with live := false, curP := s.protos.length, protos := s.protos ++ [{}], curQ := s.queues.length,
                         queues := s.queues ++ [(s.queues.length, [])] } =
      { obs s with live := false, ps := .init, key := none, Q := [] } := by
    show Obs.mk ((s.protos ++ [({} : Proto)]).getD s.protos.length {}).state ((s.protos ++ [({} : Proto)]).getD s.protos.length {}).keyOf
      (qGetL (s.queues ++ [(s.queues.length, [])]) s.queues.length) _ _ _ _ _ _ = _
    rw [getD_append_new, hQ]; rfl
  refine ⟨(List.length_append (as := s.protos) (bs := [{}])).symm,
    (List.length_append (as := s.queues) (bs := [(s.queues.length, [])])).symm, DenseKeys_append _ _ h.keys, h.workers_len, ?_,
    ho ▸ Env_disconnect (obs s) h.env hn, Pend_of_quiet ho (Or.inl rfl)⟩
  -- every worker now belongs to an abandoned attempt, and the objects it drives are older than the fresh ones
  intro j w hj
  exact ⟨h.worker_conn hj, fun _ => h.objects_lt hj, fun hx => (by cases hx)⟩

theorem Inv_worker_reading (cfg : Cfg) (s : St) (i : Nat) (w : Worker) (h : Inv s) (hi : s.workers[i]? = some w)
    (hpc : w.pc = .reading) : Inv (step cfg s (.worker i)) := by
  rw [step_worker_reading cfg s i w hi hpc]
  cases hQ : qGetL s.queues w.q with
  | nil => exact h
  | cons sg rest =>
    by_cases hc : s.live = true ∧ i + 1 = s.conn
    · -- the live connection's worker takes the server's reply from the current queue
      obtain ⟨_, hq, hph⟩ := h.cur hi hc.1 hc.2
      rw [hpc] at hph
      rw [hq] at hQ
      have ho := obs_queues_cur { s with workers := s.workers.set i { w with pc := .finishing (sg.kind == .hello && sg.good && sg.conn == w.conn) } }
        w.q rest hq
      exact Inv_of_cur _ h hi hc.2 ho rfl (DenseKeys_qSetL _ _ _ h.keys (h.objects_lt hi).2) rfl rfl
        (Phase_read (obs s) sg rest w.conn ((h.worker_conn hi).trans hc.2) h.env hc.1 hph hQ)
        (Env_cur (obs s) _ _ rest h.env hc.1 h.env.netFlush) (Pend_of_quiet ho (Or.inr (fun e => nomatch hph.1.symm.trans e)))
    · -- the worker of an abandoned attempt reads from its own, retired queue
      exact Inv_setPc _ (Inv_queues_other h w.q rest (h.stale hi hc).2) hi (fun hl hcc => absurd ⟨hl, hcc⟩ hc)
        (fun hx => by rw [hpc] at hx; exact absurd hx (by decide))

theorem Inv_worker_finishing (cfg : Cfg) (s : St) (i : Nat) (w : Worker) (ok : Bool) (h : Inv s) (hi : s.workers[i]? = some w)
    (hpc : w.pc = .finishing ok) : Inv (step cfg s (.worker i)) := by
  have hnf : ¬(w.pc = .wantFlush ∨ w.pc = .inFlush) :=
    fun hx => by rw [hpc] at hx; exact hx.elim (fun e => nomatch e) (fun e => nomatch e)
  by_cases hps : (pGet s w.p).state = .handshake
  · by_cases hp : w.p = s.curP
    · have hc := h.is_cur hi hp
      have hph := (h.cur hi hc.1 hc.2).2.2
      rw [hpc] at hph
      have hwc : w.conn = s.conn := (h.worker_conn hi).trans hc.2
      cases ok with
      | true =>
        rw [step_worker_fin_ok cfg s i w hi hpc hps, if_pos hp]
        have ho := obs_protos_cur { s with workers := s.workers.set i { w with pc := .wantFlush } } w.p
          { state := .transport, keyOf := some w.conn } hp h.curP_lt
        obtain ⟨hil, _⟩ := List.getElem?_eq_some_iff.mp hi
        exact Inv_of_cur _ h hi hc.2 ho (List.length_set ..) ⟨rfl, h.keys⟩ rfl rfl
          (Post_finish_ok (obs s) w.conn hwc h.env hc.1 hph) (Env_cur (obs s) .transport _ _ h.env hc.1 (fun _ e => nomatch e))
          (fun _ _ => Or.inr ⟨i, { w with pc := .wantFlush }, List.getElem?_set_self hil, Or.inl rfl⟩)
      | false =>
        rw [step_worker_fin_fail cfg s i w hi hpc hps, if_pos hp]
        obtain ⟨hb, hpost⟩ := Post_finish_fail (obs s) w.conn _ hwc hph
        have ho := obs_protos_cur { s with up := s.up ++ [.failure w.conn], workers := s.workers.set i { w with pc := .done } } w.p
          { pGet s w.p with state := .error } hp h.curP_lt
        exact Inv_of_cur _ h hi hc.2 ho (List.length_set ..) ⟨rfl, h.keys⟩ rfl rfl hpost
          (Env_up_other _ (.failure w.conn) (Env_cur (obs s) .error _ _ h.env hc.1 (fun _ e => nomatch e)) rfl (fun e => nomatch e))
          (Pend_of_quiet ho (Or.inr (fun e => nomatch e)))
    · -- the worker of an abandoned attempt: its protocol object is not the current one
      obtain ⟨x, e⟩ := step_worker_fin_other cfg s i w ok hi hpc hps hp
      rw [e]
      exact Inv_setPc _ (Inv_protos_other h w.p x hp) hi (fun hl hcc => absurd (h.cur hi hl hcc).1 hp)
        (fun hx => absurd hx hnf)
  · -- the state machine refuses: this is not the live connection's worker, whose protocol object is in handshake state
    rw [step_worker_fin_refuse cfg s i w ok hi hpc hps]
    refine Inv_setPc _ h hi (fun hl hcc hph => ?_) (fun hx => absurd hx hnf)
    rw [hpc] at hph
    rw [(h.cur hi hl hcc).1] at hps
    exact absurd hph.1 hps

theorem Inv_worker_wantFlush (cfg : Cfg) (s : St) (i : Nat) (w : Worker) (h : Inv s) (hi : s.workers[i]? = some w)
    (hpc : w.pc = .wantFlush) : Inv (step cfg s (.worker i)) := by
  rw [step_worker_wantFlush cfg s i w hi hpc]
  by_cases hf : s.flushHeld = true
  · rw [if_pos hf]; exact h
  · rw [if_neg hf]
    exact Inv_flushHeld true (Inv_setPc .inFlush h hi (fun _ _ hph => by rw [hpc] at hph; exact hph) (fun _ => Or.inl (Or.inr rfl)))

theorem Inv_worker_inFlush (cfg : Cfg) (s : St) (i : Nat) (w : Worker) (h : Inv s) (hi : s.workers[i]? = some w)
    (hpc : w.pc = .inFlush) : Inv (step cfg s (.worker i)) := by
  have hdone : ∀ {s1 : St}, Inv s1 → s1.workers = s.workers → (obs s1).Q = [] ∨ (obs s1).ps ≠ .transport →
      Inv { s1 with flushHeld := false, workers := s1.workers.set i { w with pc := .done } } :=
    fun h1 hw hq => Inv_flushHeld false
      (Inv_setPc .done h1 (hw ▸ hi) (fun _ _ hph => by rw [hpc] at hph; exact hph) (fun _ => Or.inr hq))
  rw [step_worker_inFlush cfg s i w hi hpc]
  rcases Inv_flushOne h (Or.inr ⟨i, w, hi, Or.inr hpc⟩) with ⟨s1, e, h1⟩ | ⟨e, hq⟩ | ⟨e, _, hpt⟩ | ⟨s1, e, hw, h1, hq, hb⟩
  · rw [e]; exact h1
  · rw [e]; exact hdone h rfl (Or.inl hq)
  · rw [e]; exact hdone h rfl (Or.inr hpt)
  · rw [e]; exact hdone (Inv_raise h1 hb) hw (Or.inr hq)

theorem Inv_worker (cfg : Cfg) (s : St) (i : Nat) (h : Inv s) : Inv (step cfg s (.worker i)) := by
  cases hi : s.workers[i]? with
  | none => rw [step_worker_none cfg s i hi]; exact h
  | some w =>
    cases hpc : w.pc with
    | reading => exact Inv_worker_reading cfg s i w h hi hpc
    | finishing ok => exact Inv_worker_finishing cfg s i w ok h hi hpc
    | wantFlush => exact Inv_worker_wantFlush cfg s i w h hi hpc
    | inFlush => exact Inv_worker_inFlush cfg s i w h hi hpc
    | done => rw [step_worker_done cfg s i w hi hpc]; exact h

theorem Inv_step (s : St) (a : Act) (h : Inv s) (ha : Allowed s a = true) : Inv (step goodCfg s a) := by
  cases a with
  | connect => exact Inv_connect _ s h ha
  | arrive sg => exact Inv_arrive _ s sg h ha
  | net => exact Inv_net _ s h
  | disconnect => exact Inv_disconnect s h ha
  | worker i => exact Inv_worker _ s i h

theorem Inv_init : Inv {} := by
  refine ⟨rfl, rfl, ?_, rfl, fun i w hi => (by cases hi), ?_, Pend_of_quiet rfl (Or.inl rfl)⟩
  · intro q
    cases q with
    | zero => rfl
    | succ n => simp
  · exact { hello0 := fun hl => (by cases hl), hello1 := fun hl => (by cases hl), notLive := fun _ => ⟨Or.inl rfl, rfl, rfl⟩,
            netFlush := fun hx => (by rcases hx with hx | hx <;> cases hx), upPrefix := List.nil_prefix, quiet := fun _ => rfl,
            up_conn_le := fun sg hx => (by cases hx), arrived_conn_le := fun sg hx => (by cases hx), conn_pos := fun hl => (by cases hl) }

theorem Inv_run (acts : List Act) (s : St) (h : Inv s) (ha : AllowedRun goodCfg s acts = true) : Inv (run goodCfg s acts) := by
  induction acts generalizing s with
  | nil => exact h
  | cons a as ih =>
    simp only [AllowedRun, Bool.and_eq_true] at ha
    exact ih _ (Inv_step s a h ha.1) ha.2

end Yow.HS
