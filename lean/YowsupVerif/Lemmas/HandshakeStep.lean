/-
  The equations of `step` (Model/Handshake.lean) per action and per program counter, and of one iteration of the flush loop.
-/
import YowsupVerif.Lemmas.HandshakeTables
namespace Yow.HS

/-- the configuration in which a disconnect retires the segment queue and the protocol object (the current source's:
    Props/C04.lean, `C04_source_orchestration`) -/
def goodCfg : Cfg := { freshQueue := true, freshProtocol := true, segReset := true }

theorem flushOne_empty (s : St) (hQ : qGetL s.queues s.curQ = []) : flushOne s = (s, .empty) := by
  simp only [flushOne, qGet_eq, hQ]

theorem flushOne_refused (s : St) (sg : Seg) (rest : List Seg) (hQ : qGetL s.queues s.curQ = sg :: rest)
    (hp : pstate s ≠ .transport) : flushOne s = (s, .refused) := by
  simp only [flushOne, qGet_eq, hQ, bne_iff_ne, ne_eq, hp, not_false_eq_true, if_true]

theorem flushOne_delivered (s : St) (sg : Seg) (rest : List Seg) (hQ : qGetL s.queues s.curQ = sg :: rest)
    (hp : pstate s = .transport) (hc : (sg.kind == .frame && sg.good && keyOf s == some sg.conn) = true) :
    flushOne s = ({ s with queues := qSetL s.queues s.curQ rest, up := s.up ++ [.frame sg] }, .delivered) := by
  simp only [flushOne, qGet_eq, hQ, hp, bne_self_eq_false, Bool.false_eq_true, if_false, hc, if_true]
  rfl

theorem flushOne_undecryptable (s : St) (sg : Seg) (rest : List Seg) (hQ : qGetL s.queues s.curQ = sg :: rest)
    (hp : pstate s = .transport) (hc : (sg.kind == .frame && sg.good && keyOf s == some sg.conn) = false) :
    flushOne s = ({ s with queues := qSetL s.queues s.curQ rest,
                           protos := s.protos.set s.curP { pGet s s.curP with state := .error } }, .undecryptable) := by
  simp only [flushOne, qGet_eq, hQ, hp, bne_self_eq_false, Bool.false_eq_true, if_false, hc]
  rfl

theorem step_net_idle (cfg : Cfg) (s : St) (h : s.npc = .idle) : step cfg s .net = s := by
  unfold step; simp only [h]

theorem step_net_check (cfg : Cfg) (s : St) (h : s.npc = .check) :
    step cfg s .net = if pstate s = .handshake then { s with npc := .idle } else { s with npc := .wantFlush } := by
  unfold step; simp only [h, beq_iff_eq]

theorem step_net_wantFlush (cfg : Cfg) (s : St) (h : s.npc = .wantFlush) :
    step cfg s .net = if s.flushHeld = true then s else { s with flushHeld := true, npc := .inFlush } := by
  unfold step; simp only [h]

theorem step_net_inFlush (cfg : Cfg) (s : St) (h : s.npc = .inFlush) :
    step cfg s .net =
      match (flushOne s).2 with
      | .delivered => (flushOne s).1
      | .empty => { s with flushHeld := false, npc := .idle }
      | _ => { (flushOne s).1 with flushHeld := false, npc := .idle, up := (flushOne s).1.up ++ [.raised] } := by
  unfold step; simp only [h]
  rfl

theorem step_connect (cfg : Cfg) (s : St) (h : s.npc = .idle) (hp : pstate s ≠ .handshake) :
    step cfg s .connect =
      { s with conn := s.conn + 1, live := true, helloSeen := false,
               protos := s.protos.set s.curP { state := .handshake, keyOf := none },
               workers := s.workers ++ [{ conn := s.conn + 1, q := s.curQ, p := s.curP, pc := .reading }] } := by
  unfold step
  refine (if_neg (by rw [h]; decide)).trans ((if_neg fun e => hp (beq_iff_eq.mp e)).trans rfl)

theorem step_arrive (cfg : Cfg) (s : St) (sg : Seg) (h : s.npc = .idle) :
    step cfg s (.arrive sg) =
      { s with queues := qSetL s.queues s.curQ (qGetL s.queues s.curQ ++ [sg]), npc := .check, arrived := s.arrived ++ [sg],
               lastSerial := sg.serial, helloSeen := s.helloSeen || sg.kind == .hello } := by
  unfold step; simp only [h, bne_self_eq_false, Bool.false_eq_true, if_false]
  rfl

theorem step_disconnect (s : St) (h : s.npc = .idle ∨ s.npc = .inFlush) :
    step goodCfg s .disconnect =
      { s with live := false, curP := s.protos.length, protos := s.protos ++ [{}], curQ := s.queues.length,
               queues := s.queues ++ [(s.queues.length, [])] } := by
  unfold step
  rcases h with h | h <;> simp only [goodCfg, h, bne_self_eq_false, Bool.false_and, Bool.and_false, Bool.false_eq_true, if_false, if_true]

theorem step_worker_none (cfg : Cfg) (s : St) (i : Nat) (h : s.workers[i]? = none) : step cfg s (.worker i) = s := by
  unfold step; simp only [h]

theorem step_worker_done (cfg : Cfg) (s : St) (i : Nat) (w : Worker) (h : s.workers[i]? = some w) (hpc : w.pc = .done) :
    step cfg s (.worker i) = s := by
  unfold step; simp only [h, hpc]

theorem step_worker_reading (cfg : Cfg) (s : St) (i : Nat) (w : Worker) (h : s.workers[i]? = some w) (hpc : w.pc = .reading) :
    step cfg s (.worker i) =
      match qGetL s.queues w.q with
      | [] => s
      | sg :: rest =>
        { s with queues := qSetL s.queues w.q rest,
                 workers := s.workers.set i { w with pc := .finishing (sg.kind == .hello && sg.good && sg.conn == w.conn) } } := by
  unfold step; simp only [h, hpc, qGet_eq]
  rfl

/-- the state machine refuses `finish` / `fail`: the worker thread dies -/
theorem step_worker_fin_refuse (cfg : Cfg) (s : St) (i : Nat) (w : Worker) (ok : Bool)
    (h : s.workers[i]? = some w) (hpc : w.pc = .finishing ok) (hps : (pGet s w.p).state ≠ .handshake) :
    step cfg s (.worker i) = { s with workers := s.workers.set i { w with pc := .done } } := by
  unfold step; simp only [h, hpc, beq_iff_eq, hps, if_false, ite_self]

theorem step_worker_fin_ok (cfg : Cfg) (s : St) (i : Nat) (w : Worker)
    (h : s.workers[i]? = some w) (hpc : w.pc = .finishing true) (hps : (pGet s w.p).state = .handshake) :
    step cfg s (.worker i) =
      { s with protos := s.protos.set w.p { state := .transport, keyOf := some w.conn },
               workers := s.workers.set i { w with pc := if w.p = s.curP then .wantFlush else .done } } := by
  unfold step; simp only [h, hpc, hps, beq_self_eq_true, if_true, beq_iff_eq]
  rfl

theorem step_worker_fin_fail (cfg : Cfg) (s : St) (i : Nat) (w : Worker)
    (h : s.workers[i]? = some w) (hpc : w.pc = .finishing false) (hps : (pGet s w.p).state = .handshake) :
    step cfg s (.worker i) =
      { s with protos := s.protos.set w.p { pGet s w.p with state := .error },
               up := if w.p = s.curP then s.up ++ [.failure w.conn] else s.up,
               workers := s.workers.set i { w with pc := .done } } := by
  unfold step; simp only [h, hpc, hps, beq_self_eq_true, if_true, beq_iff_eq, Bool.false_eq_true, if_false]
  by_cases hc : w.p = s.curP
  · rw [if_pos hc, if_pos hc]; rfl
  · rw [if_neg hc, if_neg hc]; rfl

theorem step_worker_fin_other (cfg : Cfg) (s : St) (i : Nat) (w : Worker) (ok : Bool) (h : s.workers[i]? = some w)
    (hpc : w.pc = .finishing ok) (hps : (pGet s w.p).state = .handshake) (hp : w.p ≠ s.curP) :
    ∃ x, step cfg s (.worker i) =
      { s with protos := s.protos.set w.p x, workers := s.workers.set i { w with pc := .done } } := by
  cases ok with
  | true => exact ⟨_, by rw [step_worker_fin_ok cfg s i w h hpc hps, if_neg hp]⟩
  | false => exact ⟨_, by rw [step_worker_fin_fail cfg s i w h hpc hps, if_neg hp]⟩

theorem step_worker_wantFlush (cfg : Cfg) (s : St) (i : Nat) (w : Worker) (h : s.workers[i]? = some w) (hpc : w.pc = .wantFlush) :
    step cfg s (.worker i) =
      if s.flushHeld = true then s else { s with flushHeld := true, workers := s.workers.set i { w with pc := .inFlush } } := by
  unfold step; simp only [h, hpc]

theorem step_worker_inFlush (cfg : Cfg) (s : St) (i : Nat) (w : Worker) (h : s.workers[i]? = some w) (hpc : w.pc = .inFlush) :
    step cfg s (.worker i) =
      match (flushOne s).2 with
      | .delivered => (flushOne s).1
      | .empty => { s with flushHeld := false, workers := s.workers.set i { w with pc := .done } }
      | .refused =>
        { (flushOne s).1 with flushHeld := false, workers := (flushOne s).1.workers.set i { w with pc := .done } }
      | .undecryptable =>
        { (flushOne s).1 with flushHeld := false, up := (flushOne s).1.up ++ [.raised],
                              workers := (flushOne s).1.workers.set i { w with pc := .done } } := by
  unfold step; simp only [h, hpc]
  rfl

end Yow.HS
