/-
  The queue / protocol / worker tables of Model/Handshake.lean as plain lists: `qGetL` / `qSetL` are what `qGet` / `qSet`
  do to the association list of queues, with the equations for a lookup after an update or an append; `DenseKeys` is the
  shape of the key column under which a fresh queue gets a fresh key.  The protocol table is a list indexed by position.
-/
import YowsupVerif.Model.Handshake
import YowsupVerif.Lemmas.Threads
namespace Yow.HS

def qGetL (qs : List (Nat × List Seg)) (q : Nat) : List Seg := ((qs.find? (fun e => e.1 == q)).map Prod.snd).getD []

def qSetL (qs : List (Nat × List Seg)) (q : Nat) (l : List Seg) : List (Nat × List Seg) :=
  if qs.any (fun e => e.1 == q) then qs.map (fun e => if e.1 == q then (q, l) else e) else qs ++ [(q, l)]

theorem qGet_eq (s : St) (q : Nat) : qGet s q = qGetL s.queues q := rfl
theorem qSet_eq (s : St) (q : Nat) (l : List Seg) : qSet s q l = { s with queues := qSetL s.queues q l } := rfl

theorem qGetL_nil (q : Nat) : qGetL [] q = [] := rfl

theorem qGetL_cons (e : Nat × List Seg) (qs : List (Nat × List Seg)) (q : Nat) :
    qGetL (e :: qs) q = if e.1 = q then e.2 else qGetL qs q := by
  unfold qGetL
  by_cases h : e.1 = q <;> simp [h]

theorem any_key_eq_isSome (qs : List (Nat × List Seg)) (q : Nat) :
    qs.any (fun e => e.1 == q) = (qs.find? (fun e => e.1 == q)).isSome := by
  rw [Bool.eq_iff_iff, List.any_eq_true, List.find?_isSome]

theorem qGetL_not_key (qs : List (Nat × List Seg)) (q : Nat) (h : qs.any (fun e => e.1 == q) = false) : qGetL qs q = [] := by
  rw [any_key_eq_isSome, Option.isSome_eq_false_iff, Option.isNone_iff_eq_none] at h
  unfold qGetL
  rw [h]; rfl

theorem qGetL_append (qs r : List (Nat × List Seg)) (q : Nat) :
    qGetL (qs ++ r) q = if qs.any (fun e => e.1 == q) then qGetL qs q else qGetL r q := by
  unfold qGetL
  rw [List.find?_append, any_key_eq_isSome]
  cases qs.find? (fun e => e.1 == q) <;> rfl

theorem qGetL_map_set_self (qs : List (Nat × List Seg)) (q : Nat) (l : List Seg) (h : qs.any (fun e => e.1 == q) = true) :
    qGetL (qs.map (fun e => if e.1 == q then (q, l) else e)) q = l := by
  induction qs with
  | nil => cases h
  | cons e qs ih =>
    rw [List.map_cons, qGetL_cons]
    by_cases h1 : e.1 = q
    · rw [if_pos (beq_iff_eq.mpr h1), if_pos rfl]
    · rw [List.any_cons, beq_eq_false_iff_ne.mpr h1] at h
      rw [if_neg (fun e' => h1 (beq_iff_eq.mp e')), if_neg h1, ih h]

theorem qGetL_map_set_ne (qs : List (Nat × List Seg)) (q q' : Nat) (l : List Seg) (h : q' ≠ q) :
    qGetL (qs.map (fun e => if e.1 == q then (q, l) else e)) q' = qGetL qs q' := by
  induction qs with
  | nil => rfl
  | cons e qs ih =>
    rw [List.map_cons, qGetL_cons, qGetL_cons, ih]
    by_cases h1 : e.1 = q
    · rw [if_pos (beq_iff_eq.mpr h1), if_neg (fun e' : q = q' => h e'.symm), if_neg (fun e' => h (e'.symm.trans h1))]
    · rw [if_neg (fun e' => h1 (beq_iff_eq.mp e'))]

theorem qGetL_qSetL (qs : List (Nat × List Seg)) (q q' : Nat) (l : List Seg) :
    qGetL (qSetL qs q l) q' = if q' = q then l else qGetL qs q' := by
  unfold qSetL
  by_cases h : qs.any (fun e => e.1 == q) = true
  · rw [if_pos h]
    by_cases h2 : q' = q
    · subst h2; rw [if_pos rfl, qGetL_map_set_self qs q' l h]
    · rw [if_neg h2, qGetL_map_set_ne qs q q' l h2]
  · rw [if_neg h, qGetL_append, qGetL_cons, qGetL_nil]
    by_cases h2 : q' = q
    · subst h2; rw [if_neg h, if_pos rfl, if_pos rfl]
    · rw [if_neg h2, if_neg (fun e : q = q' => h2 e.symm)]
      by_cases h3 : qs.any (fun e => e.1 == q') = true
      · rw [if_pos h3]
      · rw [if_neg h3, qGetL_not_key _ _ ((Bool.not_eq_true _).mp h3)]

def DenseKeys (qs : List (Nat × List Seg)) : Prop := ∀ q, qs.any (fun e => e.1 == q) = decide (q < qs.length)

theorem any_key_map_set (qs : List (Nat × List Seg)) (q q' : Nat) (l : List Seg) :
    (qs.map (fun e => if e.1 == q then (q, l) else e)).any (fun e => e.1 == q') = qs.any (fun e => e.1 == q') := by
  induction qs with
  | nil => rfl
  | cons e qs ih =>
    simp only [List.map_cons, List.any_cons, ih]
    by_cases h1 : e.1 = q <;> simp [h1]

theorem DenseKeys_qSetL (qs : List (Nat × List Seg)) (q : Nat) (l : List Seg) (hk : DenseKeys qs) (hq : q < qs.length) :
    (qSetL qs q l).length = qs.length ∧ DenseKeys (qSetL qs q l) := by
  unfold qSetL
  rw [if_pos (by rw [hk q]; exact decide_eq_true hq)]
  exact ⟨List.length_map .., fun q' => by rw [any_key_map_set, List.length_map]; exact hk q'⟩

theorem DenseKeys_append (qs : List (Nat × List Seg)) (l : List Seg) (hk : DenseKeys qs) : DenseKeys (qs ++ [(qs.length, l)]) := by
  intro q
  rw [List.any_append, hk q, List.length_append]
  show (decide (q < qs.length) || (qs.length == q || false)) = decide (q < qs.length + 1)
  rw [Bool.or_false, Bool.eq_iff_iff]
  simp only [Bool.or_eq_true, decide_eq_true_eq, beq_iff_eq]
  rw [Nat.lt_succ_iff, Nat.le_iff_lt_or_eq, eq_comm (a := q)]

theorem qGetL_append_new (qs : List (Nat × List Seg)) (k q : Nat) : qGetL (qs ++ [(k, [])]) q = qGetL qs q := by
  rw [qGetL_append, qGetL_cons, qGetL_nil, ite_self]
  by_cases h : qs.any (fun e => e.1 == q) = true
  · rw [if_pos h]
  · rw [if_neg h, qGetL_not_key _ _ ((Bool.not_eq_true _).mp h)]

theorem qGetL_length (qs : List (Nat × List Seg)) (hk : DenseKeys qs) : qGetL qs qs.length = [] :=
  qGetL_not_key _ _ (by rw [hk]; simp)

theorem pGet_eq (s : St) (p : Nat) : pGet s p = s.protos.getD p {} := rfl
theorem pSet_eq (s : St) (p : Nat) (x : Proto) : pSet s p x = { s with protos := s.protos.set p x } := rfl

theorem getD_set (l : List Proto) (p p' : Nat) (x d : Proto) :
    (l.set p x).getD p' d = if p = p' ∧ p < l.length then x else l.getD p' d := by
  simp only [List.getD_eq_getElem?_getD, List.getElem?_set]
  by_cases h1 : p = p'
  · subst h1
    by_cases h2 : p < l.length <;> simp [h2]
  · simp [h1]

theorem getD_append_new (l : List Proto) (x d : Proto) : (l ++ [x]).getD l.length d = x := by
  simp [List.getD_eq_getElem?_getD]

theorem getD_append_old (l : List Proto) (x d : Proto) (p : Nat) (h : p < l.length) : (l ++ [x]).getD p d = l.getD p d := by
  simp [List.getD_eq_getElem?_getD, List.getElem?_append_left h]

theorem getElem?_append_single_some {α} (l : List α) (j : Nat) (a x : α) (h : (l ++ [a])[j]? = some x) :
    (j = l.length ∧ x = a) ∨ (j < l.length ∧ l[j]? = some x) := by
  rcases Nat.lt_trichotomy j l.length with hj | hj | hj
  · exact Or.inr ⟨hj, (List.getElem?_append_left hj).symm.trans h⟩
  · subst hj
    rw [List.getElem?_concat_length] at h
    exact Or.inl ⟨rfl, (Option.some.inj h).symm⟩
  · rw [List.getElem?_eq_none (by rw [List.length_append]; exact hj)] at h; cases h

end Yow.HS
