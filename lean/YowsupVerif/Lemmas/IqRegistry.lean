/-
  Every operation does one of three things to a registry: nothing, remove the entries of one id, or
  append one entry under an id that is not outstanding (`Change`).  The invariant, and the fact that
  entries of other ids are left alone, are proved once for `Change` and read off `step_change`.
-/
import YowsupVerif.Model.IqRegistry
namespace Yow.Iq

/-- A registry `l` whose entries carry the id `f e` becomes `l'`; `t` is the only id concerned, `n` the
    counter afterwards. -/
inductive Change {α : Type} (f : α → Nat) (n : Nat) (l : List α) : Option Nat → List α → Prop
  | same (t : Option Nat) : Change f n l t l
  | remove (t : Nat) : Change f n l (some t) (l.filter fun x => f x != t)
  | add (x : α) (hn : f x ≤ n) (hfresh : ∀ e ∈ l, f e ≠ f x) : Change f n l (some (f x)) (l ++ [x])

theorem Change.bounded {α : Type} {f : α → Nat} {n : Nat} {l l' : List α} {t : Option Nat}
    (hc : Change f n l t l') (hl : ∀ e ∈ l, f e ≤ n) : ∀ e ∈ l', f e ≤ n := by
  cases hc with
  | same => exact hl
  | remove t => exact fun e he => hl e (List.mem_filter.mp he).1
  | add x hn =>
    intro e he
    rcases List.mem_append.mp he with he | he
    · exact hl e he
    · rw [List.mem_singleton.mp he]; exact hn

theorem Change.nodup {α : Type} {f : α → Nat} {n : Nat} {l l' : List α} {t : Option Nat}
    (hc : Change f n l t l') (hl : (l.map f).Nodup) : (l'.map f).Nodup := by
  cases hc with
  | same => exact hl
  | remove t => exact hl.sublist (List.filter_sublist.map f)
  | add x _ hfresh =>
    rw [List.map_append, List.nodup_append]
    refine ⟨hl, List.pairwise_singleton _ _, fun a ha b hb => ?_⟩
    obtain ⟨e, he, rfl⟩ := List.mem_map.mp ha
    rw [List.mem_singleton.mp hb]
    exact hfresh e he

theorem Change.find? {α : Type} {f : α → Nat} {n : Nat} {l l' : List α} {t : Option Nat}
    (hc : Change f n l t l') {id : Nat} (ht : t ≠ some id) :
    l'.find? (fun e => f e == id) = l.find? (fun e => f e == id) := by
  cases hc with
  | same => rfl
  | remove t =>
    have hne : t ≠ id := fun e => ht (congrArg some e)
    rw [List.find?_filter]
    congr
    funext x
    by_cases hx : f x = id
    · simp [hx, Ne.symm hne]
    · simp [hx]
  | add x =>
    have hne : ¬(f x == id) = true := fun e => ht (congrArg some (beq_iff_eq.mp e))
    rw [List.find?_append, List.find?_cons_of_neg (p := fun e => f e == id) hne, List.find?_nil, Option.or_none]

theorem find?_append_fresh {α : Type} (f : α → Nat) (l : List α) (x : α) (h : ∀ e ∈ l, f e ≠ f x) :
    (l ++ [x]).find? (fun e => f e == f x) = some x := by
  rw [List.find?_append, List.find?_eq_none.mpr fun e he => by simpa using h e he,
    List.find?_cons_of_pos (by exact beq_self_eq_true _)]
  rfl

theorem ne_of_mem_filter_bne {α : Type} (f : α → Nat) (l : List α) (id : Nat) :
    ∀ e ∈ l.filter (fun x => f x != id), f e ≠ id :=
  fun _ he => bne_iff_ne.mp (List.mem_filter.mp he).2

theorem Kind.of_complete {k : Kind} (hk : k.complete = true) : ∃ o, k = ⟨o, true, true, true⟩ := by
  obtain ⟨o, reg, ks, ke⟩ := k
  obtain ⟨⟨rfl, rfl⟩, rfl⟩ : (reg = true ∧ ks = true) ∧ ke = true := by
    simpa only [Kind.complete, Bool.and_eq_true] using hk
  exact ⟨o, rfl⟩

theorem reReq_guard (s : St) (id : Nat) :
    (decide (id ≤ s.next) && !(s.layerReg.any (fun e => e.id == id)) && !(s.appReg.any (fun e => e.id == id))) = true ↔
    (id ≤ s.next ∧ (∀ e ∈ s.layerReg, e.id ≠ id) ∧ (∀ e ∈ s.appReg, e.id ≠ id)) := by
  simp only [Bool.and_eq_true, decide_eq_true_eq, Bool.not_eq_true', List.any_eq_false, beq_iff_eq,
    and_assoc, ne_eq]

theorem step_reReq_of_guard (s : St) (id : Nat) (k : Kind) (a b : Bool)
    (hid : id ≤ s.next) (hl : ∀ e ∈ s.layerReg, e.id ≠ id) (ha : ∀ e ∈ s.appReg, e.id ≠ id) :
    step s (.reReq id k a b) =
        ((if k.registers then
            { s with appReg := s.appReg ++ [{ id := id, succ := a, err := b }],
                     layerReg := s.layerReg ++ [{ layer := k.owner, id := id, succ := k.succ, err := k.err }] }
          else { s with appReg := s.appReg ++ [{ id := id, succ := a, err := b }] }), [.sent id]) := by
  simp only [step, (reReq_guard s id).2 ⟨hid, hl, ha⟩, if_true]

theorem appReceive_fst (s : St) (id : Nat) (r : Bool) :
    (appReceive s id r).1 = s ∨
    (appReceive s id r).1 = { s with appReg := s.appReg.filter (fun x => x.id != id) } := by
  unfold appReceive
  split
  · exact Or.inl rfl
  · split
    · exact Or.inr rfl
    · split <;> exact Or.inr rfl

theorem deliver_fst (s : St) (id : Nat) (r : Bool) :
    (step s (.deliver id r)).1 = s ∨
    (step s (.deliver id r)).1 = { s with layerReg := s.layerReg.filter (fun x => x.id != id) } ∨
    (step s (.deliver id r)).1 = { s with layerReg := s.layerReg.filter (fun x => x.id != id),
                                          appReg := s.appReg.filter (fun x => x.id != id) } := by
  simp only [step]
  split
  · exact Or.inl rfl
  · split
    · exact Or.inr (appReceive_fst _ id r)
    · exact Or.inr (Or.inl rfl)

/-- the one id an operation is about -/
def touched (s : St) : Op → Option Nat
  | .appReq .. | .libReq _ => some (s.next + 1)
  | .reReq id .. | .deliver id _ => some id
  | .serverReq id c => if c then some id else none

theorem next_mono_step (s : St) (op : Op) : s.next ≤ (step s op).1.next := by
  cases op with
  | appReq k a b => obtain ⟨o, reg, ks, ke⟩ := k; cases reg <;> exact Nat.le_succ _
  | libReq k => obtain ⟨o, reg, ks, ke⟩ := k; cases reg <;> exact Nat.le_succ _
  | reReq id k a b =>
    simp only [step]
    split
    · split <;> exact Nat.le_refl _
    · exact Nat.le_refl _
  | serverReq id c => simp only [step]; split <;> exact Nat.le_refl _
  | deliver id r => rcases deliver_fst s id r with e | e | e <;> rw [e] <;> exact Nat.le_refl _

theorem next_mono_run (s : St) (ops : List Op) : s.next ≤ (run s ops).1.next := by
  induction ops generalizing s with
  | nil => exact Nat.le_refl _
  | cons op ops ih =>
    simp only [run]
    exact Nat.le_trans (next_mono_step s op) (ih _)

theorem Inv.mk {s : St} (layer_le : ∀ e ∈ s.layerReg, e.id ≤ s.next) (app_le : ∀ e ∈ s.appReg, e.id ≤ s.next)
    (layer_nodup : (s.layerReg.map LayerEntry.id).Nodup) (app_nodup : (s.appReg.map AppEntry.id).Nodup) : Inv s :=
  ⟨layer_le, app_le, layer_nodup, app_nodup⟩
theorem Inv.layer_le {s : St} (h : Inv s) : ∀ e ∈ s.layerReg, e.id ≤ s.next := h.1
theorem Inv.app_le {s : St} (h : Inv s) : ∀ e ∈ s.appReg, e.id ≤ s.next := h.2.1
theorem Inv.layer_nodup {s : St} (h : Inv s) : (s.layerReg.map LayerEntry.id).Nodup := h.2.2.1
theorem Inv.app_nodup {s : St} (h : Inv s) : (s.appReg.map AppEntry.id).Nodup := h.2.2.2

theorem Inv.fresh {s : St} (h : Inv s) :
    (∀ e ∈ s.layerReg, e.id ≠ s.next + 1) ∧ (∀ e ∈ s.appReg, e.id ≠ s.next + 1) :=
  ⟨fun e he => Nat.ne_of_lt (Nat.lt_succ_of_le (h.layer_le e he)),
    fun e he => Nat.ne_of_lt (Nat.lt_succ_of_le (h.app_le e he))⟩

theorem step_change (s : St) (h : Inv s) (op : Op) :
    Change LayerEntry.id (step s op).1.next s.layerReg (touched s op) (step s op).1.layerReg ∧
    Change AppEntry.id (step s op).1.next s.appReg (touched s op) (step s op).1.appReg := by
  obtain ⟨freshL, freshA⟩ := h.fresh
  cases op with
  | appReq k a b =>
    obtain ⟨o, reg, ks, ke⟩ := k
    cases reg
    · exact ⟨.same _, .add (⟨s.next + 1, a, b⟩ : AppEntry) (Nat.le_refl _) freshA⟩
    · exact ⟨.add (⟨o, s.next + 1, ks, ke⟩ : LayerEntry) (Nat.le_refl _) freshL, .add (⟨s.next + 1, a, b⟩ : AppEntry) (Nat.le_refl _) freshA⟩
  | libReq k =>
    obtain ⟨o, reg, ks, ke⟩ := k
    cases reg
    · exact ⟨.same _, .same _⟩
    · exact ⟨.add (⟨o, s.next + 1, ks, ke⟩ : LayerEntry) (Nat.le_refl _) freshL, .same _⟩
  | reReq id k a b =>
    by_cases hg : id ≤ s.next ∧ (∀ e ∈ s.layerReg, e.id ≠ id) ∧ (∀ e ∈ s.appReg, e.id ≠ id)
    · obtain ⟨hid, hl, ha⟩ := hg
      rw [step_reReq_of_guard s id k a b hid hl ha]
      obtain ⟨o, reg, ks, ke⟩ := k
      cases reg
      · exact ⟨.same _, .add (⟨id, a, b⟩ : AppEntry) hid ha⟩
      · exact ⟨.add (⟨o, id, ks, ke⟩ : LayerEntry) hid hl, .add (⟨id, a, b⟩ : AppEntry) hid ha⟩
    · simp only [step, mt (reReq_guard s id).1 hg]
      exact ⟨.same _, .same _⟩
  | serverReq id c =>
    cases c
    · exact ⟨.same _, .same _⟩
    · simp only [step, Bool.true_and]
      split
      · exact ⟨.remove id, .same _⟩
      · exact ⟨.same _, .same _⟩
  | deliver id r =>
    rcases deliver_fst s id r with e | e | e <;> rw [e]
    · exact ⟨.same _, .same _⟩
    · exact ⟨.remove id, .same _⟩
    · exact ⟨.remove id, .remove id⟩

theorem inv_init : Inv init :=
  .mk (fun _ h => nomatch h) (fun _ h => nomatch h) List.nodup_nil List.nodup_nil

theorem inv_step (s : St) (h : Inv s) (op : Op) : Inv (step s op).1 := by
  have hn := next_mono_step s op
  obtain ⟨cl, ca⟩ := step_change s h op
  exact .mk (cl.bounded fun e he => Nat.le_trans (h.layer_le e he) hn)
    (ca.bounded fun e he => Nat.le_trans (h.app_le e he) hn) (cl.nodup h.layer_nodup) (ca.nodup h.app_nodup)

theorem inv_run (s : St) (h : Inv s) (ops : List Op) : Inv (run s ops).1 := by
  induction ops generalizing s with
  | nil => exact h
  | cons op ops ih => exact ih _ (inv_step s h op)

theorem touched_ne (s : St) (id : Nat) (hid : id ≤ s.next) (op : Op)
    (hop : ∀ r, op ≠ .deliver id r) (hre : ∀ k a b, op ≠ .reReq id k a b)
    (hsrv : op ≠ .serverReq id true) : touched s op ≠ some id := by
  intro e
  cases op with
  | appReq k a b => cases e; exact Nat.not_succ_le_self _ hid
  | libReq k => cases e; exact Nat.not_succ_le_self _ hid
  | reReq id' k a b => cases e; exact hre k a b rfl
  | serverReq i c =>
    cases c
    · cases e
    · cases e; exact hsrv rfl
  | deliver id' r => cases e; exact hop r rfl

theorem run_keeps_entries (s : St) (h : Inv s) (id : Nat) (hid : id ≤ s.next) (ops : List Op)
    (hop : ∀ op ∈ ops, ∀ r, op ≠ .deliver id r) (hre : ∀ op ∈ ops, ∀ k a b, op ≠ .reReq id k a b)
    (hsrv : ∀ op ∈ ops, op ≠ .serverReq id true) :
    (run s ops).1.layerReg.find? (fun e => e.id == id) = s.layerReg.find? (fun e => e.id == id) ∧
    (run s ops).1.appReg.find? (fun e => e.id == id) = s.appReg.find? (fun e => e.id == id) := by
  induction ops generalizing s with
  | nil => exact ⟨rfl, rfl⟩
  | cons op ops ih =>
    have ht := touched_ne s id hid op (hop op List.mem_cons_self) (hre op List.mem_cons_self)
      (hsrv op List.mem_cons_self)
    obtain ⟨cl, ca⟩ := step_change s h op
    have h2 := ih (step s op).1 (inv_step s h op) (Nat.le_trans hid (next_mono_step s op))
      (fun o ho => hop o (List.mem_cons_of_mem _ ho)) (fun o ho => hre o (List.mem_cons_of_mem _ ho))
      (fun o ho => hsrv o (List.mem_cons_of_mem _ ho))
    exact ⟨h2.1.trans (cl.find? ht), h2.2.trans (ca.find? ht)⟩

theorem deliver_unknown (s : St) (id : Nat) (r : Bool) (h : ∀ e ∈ s.layerReg, e.id ≠ id) :
    step s (.deliver id r) = (s, [.ordinary id]) := by
  have hf : s.layerReg.find? (fun e => e.id == id) = none :=
    List.find?_eq_none.mpr fun e he => by simpa using h e he
  simp only [step, hf]

theorem appReceive_registered (s : St) (id : Nat) (a b r : Bool)
    (hA : s.appReg.find? (fun e => e.id == id) = some ⟨id, a, b⟩) :
    appReceive s id r = ({ s with appReg := s.appReg.filter (fun x => x.id != id) },
      [if (if r then a else b) then .appCb id r else .swallowed id]) := by
  rw [appReceive, hA]
  cases r <;> cases a <;> cases b <;> rfl

/-- A complete entry has a callback for either type of reply (the test `step` makes on the entry found). -/
theorem complete_entry_answers (r : Bool) : ((r && true) || (!r && true)) = true := by cases r <;> rfl

theorem deliver_app_registered (s : St) (o id : Nat) (a b r : Bool)
    (hL : s.layerReg.find? (fun e => e.id == id) = some ⟨o, id, true, true⟩)
    (hA : s.appReg.find? (fun e => e.id == id) = some ⟨id, a, b⟩) :
    (step s (.deliver id r)).2 =
      [.layerCb o id r, if (if r then a else b) then .appCb id r else .swallowed id] ∧
    (step s (.deliver id r)).1.layerReg = s.layerReg.filter (fun x => x.id != id) ∧
    (step s (.deliver id r)).1.appReg = s.appReg.filter (fun x => x.id != id) := by
  simp only [step, hL, complete_entry_answers r, if_true,
    appReceive_registered { s with layerReg := s.layerReg.filter (fun x => x.id != id) } id a b r hA,
    and_self]

theorem deliver_lib_registered (s : St) (o id : Nat) (r : Bool)
    (hL : s.layerReg.find? (fun e => e.id == id) = some ⟨o, id, true, true⟩)
    (hA : s.appReg.find? (fun e => e.id == id) = none) :
    (step s (.deliver id r)).2 = [.layerCb o id r, .appEntity id] := by
  simp only [step, hL, complete_entry_answers r, if_true, appReceive, hA]

theorem app_request_reply (pre post : List Op) (k : Kind) (hk : k.complete = true) (a b r : Bool)
    (hpost : ∀ op ∈ post, ∀ r', op ≠ .deliver ((run init pre).1.next + 1) r')
    (hre : ∀ op ∈ post, ∀ k' a' b', op ≠ .reReq ((run init pre).1.next + 1) k' a' b')
    (hsrv : ∀ op ∈ post, op ≠ .serverReq ((run init pre).1.next + 1) true) :
    let id := (run init pre).1.next + 1
    let s := (run (step (run init pre).1 (.appReq k a b)).1 post).1
    (step s (.deliver id r)).2 =
      [.layerCb k.owner id r, if (if r then a else b) then .appCb id r else .swallowed id] ∧
    (∀ e ∈ (step s (.deliver id r)).1.layerReg, e.id ≠ id) ∧
    (∀ e ∈ (step s (.deliver id r)).1.appReg, e.id ≠ id) := by
  intro id s
  obtain ⟨o, rfl⟩ := Kind.of_complete hk
  have hI := inv_run init inv_init pre
  have hkeep := run_keeps_entries _ (inv_step _ hI (.appReq ⟨o, true, true, true⟩ a b)) id (Nat.le_refl _)
    post hpost hre hsrv
  obtain ⟨h1, h2, h3⟩ := deliver_app_registered s o id a b r
    (hkeep.1.trans (find?_append_fresh LayerEntry.id _ ⟨o, id, true, true⟩ hI.fresh.1))
    (hkeep.2.trans (find?_append_fresh AppEntry.id _ ⟨id, a, b⟩ hI.fresh.2))
  exact ⟨h1, h2 ▸ ne_of_mem_filter_bne LayerEntry.id _ id, h3 ▸ ne_of_mem_filter_bne AppEntry.id _ id⟩

theorem lib_request_reply (pre post : List Op) (k : Kind) (hk : k.complete = true) (r : Bool)
    (hpost : ∀ op ∈ post, ∀ r', op ≠ .deliver ((run init pre).1.next + 1) r')
    (hre : ∀ op ∈ post, ∀ k' a' b', op ≠ .reReq ((run init pre).1.next + 1) k' a' b')
    (hsrv : ∀ op ∈ post, op ≠ .serverReq ((run init pre).1.next + 1) true) :
    let id := (run init pre).1.next + 1
    let s := (run (step (run init pre).1 (.libReq k)).1 post).1
    (step s (.deliver id r)).2 = [.layerCb k.owner id r, .appEntity id] := by
  intro id s
  obtain ⟨o, rfl⟩ := Kind.of_complete hk
  have hI := inv_run init inv_init pre
  have hkeep := run_keeps_entries _ (inv_step _ hI (.libReq ⟨o, true, true, true⟩)) id (Nat.le_refl _)
    post hpost hre hsrv
  exact deliver_lib_registered s o id r
    (hkeep.1.trans (find?_append_fresh LayerEntry.id _ ⟨o, id, true, true⟩ hI.fresh.1))
    (hkeep.2.trans (List.find?_eq_none.mpr fun e he => by simpa using hI.fresh.2 e he))

theorem retry_same_id_reply (s : St) (id : Nat) (hid : id ≤ s.next)
    (hl : ∀ e ∈ s.layerReg, e.id ≠ id) (ha : ∀ e ∈ s.appReg, e.id ≠ id)
    (k : Kind) (hk : k.complete = true) (a b r : Bool) :
    (step s (.reReq id k a b)).2 = [.sent id] ∧
    (step (step s (.reReq id k a b)).1 (.deliver id r)).2 =
      [.layerCb k.owner id r, if (if r then a else b) then .appCb id r else .swallowed id] := by
  obtain ⟨o, rfl⟩ := Kind.of_complete hk
  rw [step_reReq_of_guard s id _ a b hid hl ha]
  exact ⟨rfl, (deliver_app_registered _ o id a b r (find?_append_fresh LayerEntry.id _ ⟨o, id, true, true⟩ hl)
    (find?_append_fresh AppEntry.id _ ⟨id, a, b⟩ ha)).1⟩

end Yow.Iq
