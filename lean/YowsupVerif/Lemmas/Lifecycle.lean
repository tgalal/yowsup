/-
  Connection lifecycle: the invariant, and what one event does under it.
  `step_move` is the one case analysis over the inputs: every event keeps the invariant and is a `Move` (the connection
  stays, goes down or comes up), from which announcements and writes are read off; `run_inv` is the one induction over
  histories.
-/
import YowsupVerif.Model.Lifecycle
namespace Yow.Life

/-- Structural invariant: only the network layer's current dispatcher can be open, and exactly while the
    layer is connecting or connected; `connected` mirrors the state; an established dispatcher is open. -/
def Inv (s : St) : Prop :=
  (∀ (d : Nat) (dp : Disp), s.disps[d]? = some dp → dp.open_ = true → s.cur = some d ∧ (s.nstate = .connecting ∨ s.nstate = .connected)) ∧
  (∀ (d : Nat) (dp : Disp), s.disps[d]? = some dp → dp.established = true → dp.open_ = true ∧ s.nstate = .connected) ∧
  (s.connected = true ↔ s.nstate = .connected) ∧
  (s.nstate = .connected → ∃ (d : Nat) (dp : Disp), s.cur = some d ∧ s.disps[d]? = some dp ∧ dp.established = true) ∧
  (s.nstate = .connecting → ∃ (d : Nat) (dp : Disp), s.cur = some d ∧ s.disps[d]? = some dp ∧ dp.open_ = true ∧ dp.established = false) ∧
  s.nstate ≠ .disconnecting ∧
  (∀ d, s.cur = some d → d < s.disps.length)

theorem inv_init (r p c : Bool) : Inv { reconnectOpt := r, passive := p, control := c } := by
  simp [Inv]

theorem Inv.open_is_cur {s : St} (h : Inv s) {d : Nat} {dp : Disp} (hd : s.disps[d]? = some dp) (ho : dp.open_ = true) :
    s.cur = some d ∧ (s.nstate = .connecting ∨ s.nstate = .connected) := h.1 d dp hd ho

theorem Inv.established_open {s : St} (h : Inv s) {d : Nat} {dp : Disp} (hd : s.disps[d]? = some dp)
    (he : dp.established = true) : dp.open_ = true ∧ s.nstate = .connected := h.2.1 d dp hd he

theorem Inv.connected_iff {s : St} (h : Inv s) : s.connected = true ↔ s.nstate = .connected := h.2.2.1

theorem Inv.cur_established {s : St} (h : Inv s) (hn : s.nstate = .connected) :
    ∃ d dp, s.cur = some d ∧ s.disps[d]? = some dp ∧ dp.established = true := h.2.2.2.1 hn

theorem Inv.cur_connecting {s : St} (h : Inv s) (hn : s.nstate = .connecting) :
    ∃ d dp, s.cur = some d ∧ s.disps[d]? = some dp ∧ dp.open_ = true ∧ dp.established = false :=
  h.2.2.2.2.1 hn

theorem Inv.not_disconnecting {s : St} (h : Inv s) : s.nstate ≠ .disconnecting := h.2.2.2.2.2.1

theorem Inv.cur_lt {s : St} (h : Inv s) {d : Nat} (hc : s.cur = some d) : d < s.disps.length := h.2.2.2.2.2.2 d hc

theorem Inv.frame {s t : St} (h : Inv s) (h1 : t.nstate = s.nstate) (h2 : t.connected = s.connected)
    (h3 : t.cur = s.cur) (h4 : t.disps = s.disps) : Inv t := by
  unfold Inv at *; rw [h1, h2, h3, h4]; exact h

theorem ne_disconnected_of_live {n : NState} (h : n = .connecting ∨ n = .connected) : n ≠ .disconnected := by
  rcases h with rfl | rfl <;> exact NState.noConfusion

theorem Inv.live {s : St} (h : Inv s) (hn : s.nstate ≠ .disconnected) :
    s.nstate = .connecting ∨ s.nstate = .connected := by
  cases hs : s.nstate with
  | disconnected => exact absurd hs hn
  | disconnecting => exact absurd hs h.not_disconnecting
  | connecting => exact Or.inl rfl
  | connected => exact Or.inr rfl

theorem Inv.not_connected {s : St} (h : Inv s) (hn : s.nstate ≠ .connected) : s.connected = false :=
  Bool.eq_false_iff.2 fun hc => hn (h.connected_iff.1 hc)

theorem Inv.cur_open {s : St} (h : Inv s) (hn : s.nstate ≠ .disconnected) :
    ∃ d dp, s.cur = some d ∧ s.disps[d]? = some dp ∧ dp.open_ = true := by
  rcases h.live hn with hs | hs
  · obtain ⟨d, dp, a, b, c, _⟩ := h.cur_connecting hs
    exact ⟨d, dp, a, b, c⟩
  · obtain ⟨d, dp, a, b, c⟩ := h.cur_established hs
    exact ⟨d, dp, a, b, (h.established_open b c).1⟩

theorem Inv.down_of_all_closed {s : St} (h : Inv s) (hc : ∀ dp ∈ s.disps, dp.open_ = false) :
    s.nstate = .disconnected :=
  Classical.byContradiction fun hn => by
    obtain ⟨d, dp, _, hget, hopen⟩ := h.cur_open hn
    rw [hc dp (List.mem_of_getElem? hget)] at hopen
    cases hopen

theorem Inv.closed {s : St} (h : Inv s) {d : Nat} {dp : Disp} (hd : s.disps[d]? = some dp)
    (hne : s.cur ≠ some d ∨ s.nstate = .disconnected) : dp.open_ = false ∧ dp.established = false := by
  have ho : dp.open_ = false := Bool.eq_false_iff.2 fun ho => by
    obtain ⟨a, b⟩ := h.open_is_cur hd ho
    rcases hne with e | e
    · exact e a
    · exact ne_disconnected_of_live b e
  refine ⟨ho, Bool.eq_false_iff.2 fun he => ?_⟩
  have := (h.established_open hd he).1
  rw [ho] at this; cases this

/-- the state after `createConnection` on a layer that is down -/
def St.opened (s : St) : St :=
  { s with cur := some s.disps.length, disps := s.disps ++ [{ open_ := true, established := false }], nstate := .connecting }

theorem createConnection_live {s : St} (hn : s.nstate = .connecting ∨ s.nstate = .connected) :
    createConnection s = (s, []) := if_pos hn

theorem createConnection_down {s : St} (hn : s.nstate = .disconnected) :
    createConnection s = (s.opened, [.created s.disps.length]) :=
  if_neg (fun h => ne_disconnected_of_live h hn)

theorem connect_when_down {s : St} (h : Inv s) (hd : s.nstate = .disconnected) :
    (step s .connectReq).2 = [.created s.disps.length] ∧ (step s .connectEvt).2 = [.created s.disps.length] := by
  constructor
  · show (createConnection s).2 = _
    rw [createConnection_down hd]
  · show (if (!s.connected) = true then createConnection s else (s, [])).2 = _
    rw [h.not_connected (by rw [hd]; nofun), if_pos (show (!false) = true from rfl), createConnection_down hd]

theorem createConnection_touch (s : St) :
    ∃ c ds n, (createConnection s).1 = { s with cur := c, disps := ds, nstate := n } := by
  unfold createConnection
  split
  · exact ⟨s.cur, s.disps, s.nstate, rfl⟩
  · exact ⟨_, _, _, rfl⟩

theorem Inv.opened {s : St} (h : Inv s) (hn : s.nstate = .disconnected) : Inv s.opened := by
  unfold St.opened
  -- every old dispatcher is closed; the only other index is that of the new one
  have old_or_new : ∀ d dp, (s.disps ++ [({ open_ := true, established := false } : Disp)])[d]? = some dp →
      dp.established = false ∧ (dp.open_ = false ∨ d = s.disps.length) := by
    intro d dp hd
    by_cases hl : d < s.disps.length
    · rw [List.getElem?_append_left hl] at hd
      exact ⟨(h.closed hd (.inr hn)).2, .inl (h.closed hd (.inr hn)).1⟩
    · rw [List.getElem?_append_right (Nat.le_of_not_lt hl)] at hd
      obtain ⟨hlt, e⟩ := List.getElem?_eq_some_iff.1 hd
      have e0 : d - s.disps.length = 0 := Nat.lt_one_iff.1 hlt
      refine ⟨?_, .inr (Nat.le_antisymm (Nat.sub_eq_zero_iff_le.1 e0) (Nat.le_of_not_lt hl))⟩
      rw [← e]; simp only [e0, List.getElem_cons_zero]
  refine ⟨?_, ?_, ?_, nofun, ?_, nofun, ?_⟩
  · intro d dp hd ho
    rcases (old_or_new d dp hd).2 with a | a
    · rw [a] at ho; cases ho
    · exact ⟨congrArg some a.symm, Or.inl rfl⟩
  · intro d dp hd he
    rw [(old_or_new d dp hd).1] at he; cases he
  · rw [h.not_connected (by rw [hn]; intro x; cases x)]
    exact ⟨nofun, nofun⟩
  · intro _; exact ⟨_, _, rfl, List.getElem?_concat_length .., rfl, rfl⟩
  · intro d hd; cases hd; exact (List.length_append ..).symm ▸ Nat.lt_succ_self _

theorem of_getElem?_setDisp {ds : List Disp} {d d' : Nat} {x y : Disp} (h : (setDisp ds d x)[d']? = some y) :
    (d' = d ∧ y = x) ∨ (d ≠ d' ∧ ds[d']? = some y) := by
  rw [setDisp, List.getElem?_set] at h
  by_cases e : d = d'
  · rw [if_pos e] at h
    by_cases hl : d < ds.length
    · rw [if_pos hl] at h; exact .inl ⟨e.symm, (Option.some.inj h).symm⟩
    · rw [if_neg hl] at h; cases h
  · rw [if_neg e] at h; exact .inr ⟨e, h⟩

theorem Inv.establish {s : St} (h : Inv s) {d : Nat} {dp : Disp} (hc : s.cur = some d) (ho : dp.open_ = true) :
    Inv { s with disps := setDisp s.disps d { dp with established := true }, nstate := .connected, connected := true } := by
  refine ⟨?_, ?_, ⟨fun _ => rfl, fun _ => rfl⟩, fun _ => ?_, nofun, nofun, ?_⟩
  · intro d' dp' hd' ho'
    refine ⟨?_, Or.inr rfl⟩
    rcases of_getElem?_setDisp hd' with ⟨rfl, _⟩ | ⟨_, hd'⟩
    · exact hc
    · exact (h.open_is_cur hd' ho').1
  · intro d' dp' hd' he'
    refine ⟨?_, rfl⟩
    rcases of_getElem?_setDisp hd' with ⟨_, rfl⟩ | ⟨_, hd'⟩
    · exact ho
    · exact (h.established_open hd' he').1
  · exact ⟨d, { dp with established := true }, hc, List.getElem?_set_self (h.cur_lt hc), rfl⟩
  · intro d' hd'
    show d' < (s.disps.set d _).length
    rw [List.length_set]; exact h.cur_lt hd'

theorem dConnected_cases {s : St} (h : Inv s) (d : Nat) :
    step s (.dConnected d) = (s, []) ∨
    (∃ dp : Disp, s.cur = some d ∧ dp.open_ = true ∧ s.connected = false ∧
      step s (.dConnected d) = ({ s with disps := setDisp s.disps d { dp with established := true }, nstate := .connected, connected := true, reconnectFlag := false, noiseFresh := false }, [.up, .authAttempt s.passive])) := by
  cases hd : s.disps[d]? with
  | none => left; simp [step, hd]
  | some dp =>
    cases ho : dp.open_ with
    | false => left; simp [step, hd, ho]
    | true =>
      cases he : dp.established with
      | true => left; simp [step, hd, ho, he]
      | false =>
        right
        -- an open dispatcher is the current one; were the layer connected it would be established
        have hn : s.nstate ≠ .connected := by
          intro hn
          obtain ⟨d', dp', a', b', c'⟩ := h.cur_established hn
          rw [(h.open_is_cur hd ho).1] at a'; cases a'
          rw [hd] at b'; cases b'
          rw [he] at c'; cases c'
        exact ⟨dp, (h.open_is_cur hd ho).1, ho, h.not_connected hn, by simp [step, hd, ho, he]⟩

/-- the state after the current dispatcher `d` has been closed: `handle_close`, then the `onDisconnected` callback -/
def St.closeCur (s : St) (d : Nat) : St :=
  { s with disps := setDisp s.disps d { open_ := false, established := false }, nstate := .disconnected,
           connected := false, pendingDown := s.pendingDown + 1 }

theorem Inv.closeCur {s : St} (h : Inv s) {d : Nat} (hc : s.cur = some d) : Inv (s.closeCur d) := by
  have key : ∀ (d' : Nat) (dp : Disp), (s.closeCur d).disps[d']? = some dp → dp.open_ = false ∧ dp.established = false := by
    intro d' dp hd
    rcases of_getElem?_setDisp hd with ⟨_, rfl⟩ | ⟨e, hd⟩
    · exact ⟨rfl, rfl⟩
    · exact h.closed hd (Or.inl (by rw [hc]; intro x; cases x; exact e rfl))
  refine ⟨?_, ?_, ⟨nofun, nofun⟩, nofun, nofun, nofun, ?_⟩
  · intro d' dp hd ho; rw [(key d' dp hd).1] at ho; cases ho
  · intro d' dp hd he; rw [(key d' dp hd).2] at he; cases he
  · intro d' hd
    show d' < (s.disps.set d _).length
    rw [List.length_set]; exact h.cur_lt hd

theorem destroyConnection_down {s : St} (hn : s.nstate = .disconnected) : destroyConnection s = (s, []) :=
  if_pos hn

theorem destroyConnection_live {s : St} (h : Inv s) (hn : s.nstate = .connecting ∨ s.nstate = .connected) :
    ∃ d, s.cur = some d ∧ destroyConnection s = (s.closeCur d, [.closed d, .downNear]) := by
  have hd := ne_disconnected_of_live hn
  obtain ⟨d, dp, a, b, c⟩ := h.cur_open hd
  exact ⟨d, a, by simp [destroyConnection, hd, a, b, c, onDisconnected, St.closeCur]⟩

theorem disconnectEvent_live {s : St} (h : Inv s) (hn : s.nstate = .connecting ∨ s.nstate = .connected) :
    ∃ d, s.cur = some d ∧
      disconnectEvent s = (St.closeCur { s with pingThread := false, outstanding := 0 } d, [.closed d, .downNear]) :=
  destroyConnection_live (s := { s with pingThread := false, outstanding := 0 }) (h.frame rfl rfl rfl rfl) hn

theorem handleClose_cases {s : St} (h : Inv s) (d : Nat) :
    handleClose s d = (s, []) ∨
    (s.cur = some d ∧ (s.nstate = .connecting ∨ s.nstate = .connected) ∧
      handleClose s d = (s.closeCur d, [.closed d, .downNear])) := by
  cases hd : s.disps[d]? with
  | none => left; simp [handleClose, hd]
  | some dp =>
    cases ho : dp.open_ with
    | false => left; simp [handleClose, hd, ho]
    | true =>
      right
      obtain ⟨a, b⟩ := h.open_is_cur hd ho
      have := ne_disconnected_of_live b
      exact ⟨a, b, by simp [handleClose, hd, ho, onDisconnected, this, St.closeCur]⟩

/-- what becomes of a stanza handed to the network layer -/
def sendOut (s : St) : Out :=
  match s.cur, s.connected with
  | some d, true =>
    (match s.disps[d]? with
     | some dp => if dp.established then .written d else .dropped
     | none => .dropped)
  | _, _ => .dropped

/-- the shape in which `step` hands a stanza to the network layer -/
theorem send_eq (s t : St) (f : Out → List Out) :
    (match s.cur, s.connected with
     | some d, true =>
       (match s.disps[d]? with
        | some dp => (t, if dp.established then f (.written d) else f .dropped)
        | none => (t, f .dropped))
     | _, _ => (t, f .dropped)) = (t, f (sendOut s)) := by
  unfold sendOut
  split
  · split
    · split <;> rfl
    · rfl
  · rfl

theorem step_appSend (s : St) : step s .appSend = (s, [sendOut s]) :=
  send_eq s s (fun o => [o])

theorem step_pingTick (s : St) : step s .pingTick =
    if !s.pingThread then (s, [])
    else if 2 ≤ s.outstanding + 1 then disconnectEvent { s with outstanding := s.outstanding + 1 }
    else ({ s with outstanding := s.outstanding + 1 }, [.pingSent, sendOut s]) := by
  by_cases h1 : (!s.pingThread) = true
  · rw [if_pos h1]; exact if_pos h1
  · rw [if_neg h1]
    by_cases h2 : 2 ≤ s.outstanding + 1
    · rw [if_pos h2]; exact (if_neg h1).trans (if_pos h2)
    · rw [if_neg h2]; exact (if_neg h1).trans ((if_neg h2).trans (send_eq s _ (fun o => [.pingSent, o])))

theorem sendOut_spec (s : St) : sendOut s = .dropped ∨
    ∃ d dp, sendOut s = .written d ∧ s.connected = true ∧ s.cur = some d ∧ s.disps[d]? = some dp ∧ dp.established = true := by
  unfold sendOut
  split
  · rename_i d hcur hconn
    split
    · rename_i dp hd
      split
      · rename_i he; exact .inr ⟨d, dp, rfl, hconn, hcur, hd, he⟩
      · exact .inl rfl
    · exact .inl rfl
  · exact .inl rfl

/-- the outputs of delivering a deferred 'disconnected'; `Quiet` ⊂ `Out.plain` ⊂ `Silent` -/
def Quiet (o : Out) : Prop := o = .downAll ∨ ∃ i, o = .created i

/-- `c` is the `connected` flag before the operation -/
structure Calm (c : Bool) (r : St × List Out) : Prop where
  inv : Inv r.1
  connected : r.1.connected = c
  quiet : ∀ o ∈ r.2, Quiet o

theorem createConnection_calm {s : St} (h : Inv s) : Calm s.connected (createConnection s) := by
  by_cases hn : s.nstate = .disconnected
  · rw [createConnection_down hn]
    exact ⟨h.opened hn, rfl, fun o ho => .inr ⟨_, List.mem_singleton.1 ho⟩⟩
  · rw [createConnection_live (h.live hn)]
    exact ⟨h, rfl, nofun⟩

/-- the state after one queued 'disconnected' has reached the rest of the stack, before anyone reconnects -/
def St.delivered (s : St) : St :=
  { s with pendingDown := s.pendingDown - 1, noiseFresh := true, pingThread := false, outstanding := 0,
           rebootFlag := false, passive := if s.rebootFlag then false else s.passive, reconnectFlag := false }

theorem loopOne_eq (s : St) (hp : s.pendingDown ≠ 0) : loopOne s =
    if s.rebootFlag || s.reconnectFlag then ((createConnection s.delivered).1, .downAll :: (createConnection s.delivered).2)
    else (s.delivered, [.downAll]) := by
  cases hb : s.rebootFlag with
  | false => cases hf : s.reconnectFlag <;> simp [loopOne, St.delivered, hp, hb, hf]
  | true =>
    -- the control layer's `createConnection` comes first and leaves the layer live, so the interface layer's does nothing
    by_cases hl : s.nstate = .connecting ∨ s.nstate = .connected <;> cases hf : s.reconnectFlag <;>
      simp [loopOne, createConnection, St.delivered, hp, hb, hf, hl]

theorem loopOne_calm {s : St} (h : Inv s) : Calm s.connected (loopOne s) := by
  by_cases hp : s.pendingDown = 0
  · rw [show loopOne s = (s, []) from if_pos hp]
    exact ⟨h, rfl, nofun⟩
  · have hd : Inv s.delivered := h.frame rfl rfl rfl rfl
    rw [loopOne_eq s hp]
    by_cases hc : (s.rebootFlag || s.reconnectFlag) = true
    · rw [if_pos hc]
      obtain ⟨a, b, q⟩ := createConnection_calm hd
      exact ⟨a, b, fun o ho => (List.mem_cons.1 ho).elim .inl (q o)⟩
    · rw [if_neg hc]
      exact ⟨hd, rfl, fun o ho => .inl (List.mem_singleton.1 ho)⟩

theorem drain_calm (n : Nat) : ∀ {s : St}, Inv s → Calm s.connected (drain s n) := by
  induction n with
  | zero => intro s h; exact ⟨h, rfl, nofun⟩
  | succ n ih =>
    intro s h
    obtain ⟨a, b, c⟩ := loopOne_calm h
    obtain ⟨a', b', c'⟩ := ih a
    exact ⟨a', b'.trans b, fun o ho => (List.mem_append.1 ho).elim (c o) (c' o)⟩

/-- what delivering queued 'disconnected' events does outside the connection fields -/
def Delivered (s t : St) : Prop :=
  ∃ q p rf c ds n, t =
    { s with pendingDown := q, noiseFresh := true, pingThread := false, outstanding := 0, rebootFlag := false,
             passive := p, reconnectFlag := rf, cur := c, disps := ds, nstate := n }

theorem Delivered.trans {s t u : St} : Delivered s t → Delivered t u → Delivered s u := by
  rintro ⟨q, p, rf, c, ds, n, rfl⟩ ⟨q', p', rf', c', ds', n', rfl⟩
  exact ⟨q', p', rf', c', ds', n', rfl⟩

theorem loopOne_delivered {s : St} (hp : s.pendingDown ≠ 0) :
    .downAll ∈ (loopOne s).2 ∧ Delivered s (loopOne s).1 := by
  rw [loopOne_eq s hp]
  by_cases hc : (s.rebootFlag || s.reconnectFlag) = true
  · obtain ⟨c, ds, n, e⟩ := createConnection_touch s.delivered
    rw [if_pos hc, e]
    exact ⟨List.mem_cons_self .., _, _, _, c, ds, n, rfl⟩
  · rw [if_neg hc]
    exact ⟨List.mem_cons_self .., _, _, _, s.cur, s.disps, s.nstate, rfl⟩

theorem drain_delivered (n : Nat) : ∀ {s t : St}, Delivered s t → Delivered s (drain t n).1 := by
  induction n with
  | zero => intro s t h; exact h
  | succ n ih =>
    intro s t h
    show Delivered s (drain (loopOne t).1 n).1
    by_cases hp : t.pendingDown = 0
    · rw [show loopOne t = (t, []) from if_pos hp]; exact ih h
    · exact ih (h.trans (loopOne_delivered hp).2)

theorem step_loop (s : St) :
    (s.pendingDown = 0 ∧ step s .loop = (s, [])) ∨
    (.downAll ∈ (step s .loop).2 ∧ Delivered s (step s .loop).1) := by
  show _ ∧ drain s s.pendingDown = _ ∨ _ ∈ (drain s s.pendingDown).2 ∧ Delivered s (drain s s.pendingDown).1
  cases hp : s.pendingDown with
  | zero => exact .inl ⟨rfl, rfl⟩
  | succ n =>
    obtain ⟨hm, hd⟩ := loopOne_delivered (s := s) (by rw [hp]; exact Nat.succ_ne_zero n)
    exact .inr ⟨List.mem_append_left _ hm, drain_delivered n hd⟩

theorem loop_down {t : St} (hn : t.nstate = .disconnected) (hp : t.pendingDown = 1) :
    step t .loop = if t.rebootFlag || t.reconnectFlag then (t.delivered.opened, [.downAll, .created t.disps.length])
                   else (t.delivered, [.downAll]) := by
  show drain t t.pendingDown = _
  rw [hp]
  show ((loopOne t).1, (loopOne t).2 ++ []) = _
  rw [List.append_nil, loopOne_eq t (by rw [hp]; exact Nat.one_ne_zero)]
  by_cases hc : (t.rebootFlag || t.reconnectFlag) = true
  · rw [if_pos hc, if_pos hc, createConnection_down (s := t.delivered) hn]; rfl
  · rw [if_neg hc, if_neg hc]

/-- `Silent` and not a write; a `Bool`, so that `rfl` decides it on the concrete output lists of `step` -/
def Out.plain : Out → Bool
  | .up | .downNear | .authAttempt _ | .written _ => false
  | _ => true

/-- the conclusion of `announcements` for a step result `r` from state `s` -/
def Ann (s : St) (r : St × List Out) : Prop :=
    (r.2.count .up ≤ 1) ∧ (r.2.count .downNear ≤ 1) ∧
    (r.2.count .up = 1 ↔ (s.connected = false ∧ r.1.connected = true)) ∧
    (r.2.count .up = (r.2.filter (fun o => match o with | .authAttempt _ => true | _ => false)).length) ∧
    (r.2.count .downNear = 1 → (s.nstate = .connecting ∨ s.nstate = .connected)) ∧
    (s.connected = true → r.1.connected = false → r.2.count .downNear = 1)

def Silent (o : Out) : Prop := o ≠ .up ∧ o ≠ .downNear ∧ ∀ p, o ≠ .authAttempt p

theorem Quiet.silent {o : Out} (h : Quiet o) : Silent o := by
  rcases h with rfl | ⟨i, rfl⟩ <;> simp [Silent]

theorem silent_of_all_plain {l : List Out} (h : l.all Out.plain = true) {o : Out} (hm : o ∈ l) :
    Silent o ∧ ∀ d, o ≠ .written d := by
  have := List.all_eq_true.1 h o hm
  cases o <;> simp [Out.plain, Silent] at this ⊢

def St.canWrite (s : St) (d : Nat) : Prop :=
  s.connected = true ∧ s.cur = some d ∧ ∃ dp : Disp, s.disps[d]? = some dp ∧ dp.established = true ∧ dp.open_ = true

inductive Move (s : St) (r : St × List Out) : Prop
  | stay (hc : r.1.connected = s.connected) (ho : ∀ o ∈ r.2, Silent o)
      (hw : ∀ d, Out.written d ∈ r.2 → s.canWrite d)
  | down (pre : List Out) (d : Nat) (hn : s.nstate = .connecting ∨ s.nstate = .connected) (hc : r.1.connected = false)
      (ho : r.2 = pre ++ [.closed d, .downNear]) (hpre : pre.all Out.plain = true)
  | up (hs : s.connected = false) (hc : r.1.connected = true) (ho : r.2 = [.up, .authAttempt s.passive])

theorem Move.plain {s : St} {r : St × List Out} (hc : r.1.connected = s.connected) (ho : r.2.all Out.plain = true) :
    Move s r :=
  .stay hc (fun _ hm => (silent_of_all_plain ho hm).1) (fun d hm => absurd rfl ((silent_of_all_plain ho hm).2 d))

theorem Move.send {s : St} (h : Inv s) {r : St × List Out} (hc : r.1.connected = s.connected) (pre : List Out)
    (hpre : pre.all Out.plain = true) (ho : r.2 = pre ++ [sendOut s]) : Move s r := by
  rcases sendOut_spec s with e | ⟨d, dp, e, a, b, hd, he⟩ <;> rw [e] at ho
  · exact .plain hc (by rw [ho, List.all_append, hpre]; rfl)
  · have hm : ∀ o ∈ r.2, (Silent o ∧ ∀ d, o ≠ .written d) ∨ o = .written d := by
      intro o hm
      rw [ho] at hm
      exact (List.mem_append.1 hm).imp (silent_of_all_plain hpre) List.mem_singleton.1
    refine .stay hc (fun o ho => ?_) (fun d' hd' => ?_)
    · rcases hm o ho with x | rfl
      · exact x.1
      · simp [Silent]
    · rcases hm _ hd' with x | x
      · exact absurd rfl (x.2 d')
      · cases x; exact ⟨a, b, dp, hd, he, (h.established_open hd he).1⟩

theorem Calm.move {s : St} {r : St × List Out} (h : Calm s.connected r) : Move s r :=
  .stay h.connected (fun o hm => (h.quiet o hm).silent)
    (fun d hm => by rcases h.quiet _ hm with e | ⟨_, e⟩ <;> cases e)

/-! `unknownErrRaises` and `control` are configuration: no transition changes them.  `rebootFlag` is set only by
`.keysFlushed` (with the control layer) and cleared by the loop. -/

def Keep (s t : St) : Prop :=
  t.unknownErrRaises = s.unknownErrRaises ∧ t.control = s.control ∧ t.rebootFlag = s.rebootFlag ∧
  s.pendingDown ≤ t.pendingDown

theorem Keep.unknownErrRaises {s t : St} (h : Keep s t) : t.unknownErrRaises = s.unknownErrRaises := h.1
theorem Keep.control {s t : St} (h : Keep s t) : t.control = s.control := h.2.1
theorem Keep.rebootFlag {s t : St} (h : Keep s t) : t.rebootFlag = s.rebootFlag := h.2.2.1
theorem Keep.pendingDown {s t : St} (h : Keep s t) : s.pendingDown ≤ t.pendingDown := h.2.2.2

/-- also proves `Keep s t` for any `t` that is `s` with other fields updated: the four projections reduce -/
theorem Keep.refl (s : St) : Keep s s := ⟨rfl, rfl, rfl, Nat.le_refl _⟩

theorem createConnection_keep {a s : St} (h : Keep a s) : Keep a (createConnection s).1 := by
  obtain ⟨c, ds, n, e⟩ := createConnection_touch s
  rw [e]; exact h

theorem Keep.closeCur {a s : St} (h : Keep a s) (d : Nat) : Keep a (s.closeCur d) :=
  ⟨h.unknownErrRaises, h.control, h.rebootFlag, Nat.le_succ_of_le h.pendingDown⟩

theorem destroyConnection_keep {a s : St} (h : Inv s) (hk : Keep a s) : Keep a (destroyConnection s).1 := by
  by_cases hd : s.nstate = .disconnected
  · rw [destroyConnection_down hd]; exact hk
  · obtain ⟨d, _, e⟩ := destroyConnection_live h (h.live hd)
    rw [e]; exact hk.closeCur d

/-- `K` stands for the exceptions `step_move` allows in place of `Keep` -/
theorem destroy_move {s s' : St} {K : Prop} (h' : Inv s') (hn : s'.nstate = s.nstate) (hc : s'.connected = s.connected)
    (pre : List Out) (hpre : pre.all Out.plain = true) (hk : Keep s s' ∨ K) :
    Inv (destroyConnection s').1 ∧ Move s ((destroyConnection s').1, pre ++ (destroyConnection s').2) ∧
    (Keep s (destroyConnection s').1 ∨ K) := by
  have hk' := hk.imp_left (destroyConnection_keep h')
  by_cases hd : s'.nstate = .disconnected
  · rw [destroyConnection_down hd] at hk' ⊢
    exact ⟨h', .plain hc (by rw [List.append_nil]; exact hpre), hk'⟩
  · obtain ⟨d, a, e⟩ := destroyConnection_live h' (h'.live hd)
    rw [e] at hk' ⊢
    exact ⟨h'.closeCur a, .down pre d (hn ▸ h'.live hd) rfl rfl hpre, hk'⟩

theorem step_keysFlushed {s : St} (hctl : s.control = true) :
    step s .keysFlushed = destroyConnection { s with rebootFlag := true } := if_pos hctl

theorem step_move (s : St) (h : Inv s) (i : In) :
    Inv (step s i).1 ∧ Move s (step s i) ∧
    (Keep s (step s i).1 ∨ i = .loop ∨ (i = .keysFlushed ∧ s.control = true)) := by
  have idle : Inv s ∧ Move s (s, []) ∧ (Keep s s ∨ i = .loop ∨ (i = .keysFlushed ∧ s.control = true)) :=
    ⟨h, .plain rfl rfl, .inl (.refl s)⟩
  have connect := createConnection_calm h
  cases i with
  | connectReq => exact ⟨connect.inv, connect.move, .inl (createConnection_keep (.refl s))⟩
  | connectEvt =>
    simp only [step]
    split
    · exact ⟨connect.inv, connect.move, .inl (createConnection_keep (.refl s))⟩
    · exact idle
  | dConnected d =>
    rcases dConnected_cases h d with e | ⟨dp, a, c, hc, e⟩
    · rw [e]; exact idle
    · rw [e]; exact ⟨(h.establish a c).frame rfl rfl rfl rfl, .up hc rfl rfl, .inl (.refl s)⟩
  | dClosed d =>
    simp only [step]
    rcases handleClose_cases h d with e | ⟨a, n, e⟩
    · rw [e]; exact idle
    · rw [e]; exact ⟨h.closeCur a, .down [] d n rfl rfl rfl, .inl ((Keep.refl s).closeCur d)⟩
  | disconnectReq =>
    exact destroy_move (s := s) (s' := { s with pingThread := false, outstanding := 0 }) (h.frame rfl rfl rfl rfl) rfl rfl
      [] rfl (.inl (.refl s))
  | success | pongRaises | setReconnect _ => exact ⟨h.frame rfl rfl rfl rfl, .plain rfl rfl, .inl (.refl s)⟩
  | failure =>
    exact destroy_move (s := s) (s' := { s with pingThread := false, outstanding := 0 }) (h.frame rfl rfl rfl rfl) rfl rfl
      [.entityFailure] rfl (.inl (.refl s))
  | streamError k =>
    simp only [step]
    split
    · exact ⟨h, .plain rfl rfl, .inl (.refl s)⟩
    · exact destroy_move (s := s) (s' := { s with reconnectFlag := _, pingThread := false, outstanding := 0 })
        (h.frame rfl rfl rfl rfl) rfl rfl [.entityStreamError k] rfl (.inl (.refl s))
  | pingTick =>
    rw [step_pingTick]
    split
    · exact idle
    · split
      · exact destroy_move (s := s) (s' := { s with outstanding := _, pingThread := false })
          (h.frame rfl rfl rfl rfl) rfl rfl [] rfl (.inl (.refl s))
      · exact ⟨h.frame rfl rfl rfl rfl, .send h rfl [.pingSent] rfl rfl, .inl (.refl s)⟩
  | pong fresh =>
    simp only [step]
    split
    · exact ⟨h.frame rfl rfl rfl rfl, .plain rfl rfl, .inl (.refl s)⟩
    · exact idle
  | keysFlushed =>
    by_cases hctl : s.control = true
    · rw [step_keysFlushed hctl]
      exact destroy_move (s := s) (s' := { s with rebootFlag := true }) (h.frame rfl rfl rfl rfl) rfl rfl [] rfl
        (.inr (.inr ⟨rfl, hctl⟩))
    · rw [show step s .keysFlushed = (s, []) from if_neg hctl]; exact idle
  | loop => exact ⟨(drain_calm _ h).inv, (drain_calm _ h).move, .inr (.inl rfl)⟩
  | appSend =>
    rw [step_appSend]
    exact ⟨h, .send h rfl [] rfl rfl, .inl (.refl s)⟩

theorem inv_step (s : St) (h : Inv s) (i : In) : Inv (step s i).1 := (step_move s h i).1

theorem silent_counts {l : List Out} (ho : ∀ o ∈ l, Silent o) :
    l.count .up = 0 ∧ l.count .downNear = 0 ∧
    l.filter (fun o => match o with | .authAttempt _ => true | _ => false) = [] := by
  refine ⟨List.count_eq_zero.2 (fun hm => (ho _ hm).1 rfl), List.count_eq_zero.2 (fun hm => (ho _ hm).2.1 rfl), ?_⟩
  apply List.filter_eq_nil_iff.2
  intro o hm
  have := (ho o hm).2.2
  cases o <;> simp at this ⊢

theorem Move.announces {s : St} {r : St × List Out} (m : Move s r) : Ann s r := by
  unfold Ann
  cases m with
  | stay hc ho _ =>
    obtain ⟨hu, hdn, hf⟩ := silent_counts ho
    rw [hu, hdn, hf, hc]
    cases s.connected <;> simp
  | down pre d hn hc ho hpre =>
    obtain ⟨hu, hdn, hf⟩ := silent_counts (fun _ hm => (silent_of_all_plain hpre hm).1)
    rw [ho, hc]
    simp [List.count_append, hu, hdn, hf, hn]
  | up hs hc ho => rw [ho, hs, hc]; simp

theorem Move.written {s : St} {r : St × List Out} (m : Move s r) {d : Nat} (hw : Out.written d ∈ r.2) : s.canWrite d := by
  cases m with
  | stay _ _ hwr => exact hwr d hw
  | down pre d' _ _ ho hpre =>
    rw [ho] at hw
    rcases List.mem_append.1 hw with e | e
    · exact absurd rfl ((silent_of_all_plain hpre e).2 d)
    · simp at e
  | up _ _ ho => rw [ho] at hw; simp at hw

theorem announcements (s : St) (h : Inv s) (i : In) :
    let r := step s i
    (r.2.count .up ≤ 1) ∧ (r.2.count .downNear ≤ 1) ∧
    (r.2.count .up = 1 ↔ (s.connected = false ∧ r.1.connected = true)) ∧
    (r.2.count .up = (r.2.filter (fun o => match o with | .authAttempt _ => true | _ => false)).length) ∧
    (r.2.count .downNear = 1 → (s.nstate = .connecting ∨ s.nstate = .connected)) ∧
    (s.connected = true → r.1.connected = false → r.2.count .downNear = 1) := by
  exact (step_move s h i).2.1.announces

theorem failure_closes (s : St) (h : Inv s) (hc : s.nstate = .connected) :
    ∃ d, s.cur = some d ∧ (step s .failure).2 = [.entityFailure, .closed d, .downNear] ∧
      (step s .failure).1.connected = false := by
  obtain ⟨d, a, e⟩ := disconnectEvent_live h (.inr hc)
  refine ⟨d, a, ?_⟩
  show Out.entityFailure :: (disconnectEvent s).2 = _ ∧ (disconnectEvent s).1.connected = false
  rw [e]; exact ⟨rfl, rfl⟩

theorem ne_conflict (k : ErrKind) : decide (k ≠ .conflict) = (k != .conflict) := by cases k <;> rfl

/-- `interface.onStreamError`, reached when the auth layer does not raise for unknown kinds -/
theorem step_streamError {s : St} (k : ErrKind) (hr : s.unknownErrRaises = false) :
    step s (.streamError k) =
      ((disconnectEvent { s with reconnectFlag := if s.reconnectOpt && k != .conflict then true else s.reconnectFlag }).1,
       .entityStreamError k ::
        (disconnectEvent { s with reconnectFlag := if s.reconnectOpt && k != .conflict then true else s.reconnectFlag }).2) := by
  simp only [step, hr, Bool.and_false, Bool.false_eq_true, if_false, ne_conflict]

theorem stream_error_closes (s : St) (h : Inv s) (hc : s.nstate = .connected) (k : ErrKind) (hr : s.unknownErrRaises = false) :
    ∃ d, s.cur = some d ∧ step s (.streamError k) =
      (St.closeCur { s with reconnectFlag := if s.reconnectOpt && k != .conflict then true else s.reconnectFlag,
                            pingThread := false, outstanding := 0 } d,
       [.entityStreamError k, .closed d, .downNear]) := by
  obtain ⟨d, a, e⟩ := disconnectEvent_live
    (s := { s with reconnectFlag := if s.reconnectOpt && k != .conflict then true else s.reconnectFlag })
    (h.frame rfl rfl rfl rfl) (.inr hc)
  exact ⟨d, a, by rw [step_streamError k hr, e]⟩

theorem reconnect_policy (s : St) (h : Inv s) (hc : s.nstate = .connected) (k : ErrKind) (hr : s.unknownErrRaises = false)
    (hp : s.pendingDown = 0) (hf : s.reconnectFlag = false) (hb : s.rebootFlag = false) :
    let s2 := (step (step s (.streamError k)).1 .loop)
    s2.2 = (if s.reconnectOpt && k != .conflict then [.downAll, .created s.disps.length] else [.downAll]) ∧
    s2.1.noiseFresh = true ∧ s2.1.pingThread = false := by
  obtain ⟨d, _, e⟩ := stream_error_closes s h hc k hr
  rw [e, loop_down rfl (by show s.pendingDown + 1 = 1; rw [hp])]
  show (if (s.rebootFlag || if s.reconnectOpt && k != .conflict then true else s.reconnectFlag) = true
    then (_, [Out.downAll, .created (s.disps.set d _).length]) else _).2 = _ ∧ _
  rw [hb, hf, List.length_set]
  cases (s.reconnectOpt && k != .conflict) <;> exact ⟨rfl, rfl, rfl⟩

theorem ping_answered_never_closes (s : St) (ht : s.pingThread = true) (ho : s.outstanding = 0) :
    (∀ d, Out.closed d ∉ (step s .pingTick).2) ∧ (step s .pingTick).1.outstanding = 1 ∧
    (step (step s .pingTick).1 (.pong true)).1.outstanding = 0 ∧ (step s .pingTick).1.pingThread = true := by
  rw [step_pingTick, if_neg (by rw [ht]; decide), if_neg (by rw [ho]; decide)]
  refine ⟨fun d hm => ?_, by show s.outstanding + 1 = 1; rw [ho], rfl, ht⟩
  rcases List.mem_cons.1 hm with e | e
  · cases e
  · rcases sendOut_spec s with e' | ⟨_, _, e', _⟩ <;> rw [e'] at e <;> cases List.mem_singleton.1 e

theorem ping_unanswered_closes (s : St) (h : Inv s) (ht : s.pingThread = true) (ho : 1 ≤ s.outstanding)
    (hc : s.nstate = .connected) :
    ∃ d, s.cur = some d ∧ (step s .pingTick).2 = [.closed d, .downNear] ∧ (step s .pingTick).1.pingThread = false := by
  obtain ⟨d, a, e⟩ := disconnectEvent_live (s := { s with outstanding := s.outstanding + 1 }) (h.frame rfl rfl rfl rfl) (.inr hc)
  refine ⟨d, a, ?_⟩
  rw [step_pingTick, if_neg (by rw [ht]; decide), if_pos (Nat.succ_le_succ ho), e]
  exact ⟨rfl, rfl⟩

theorem pong_answers (t : St) (raises : Bool) :
    (step t (if raises then .pongRaises else .pong true)).1.pingThread = t.pingThread ∧
    (step t (if raises then .pongRaises else .pong true)).1.outstanding = 0 ∧
    (∀ d, Out.closed d ∉ (step t (if raises then .pongRaises else .pong true)).2) := by
  cases raises <;> exact ⟨rfl, rfl, fun _ => by simp [step]⟩

theorem answered_rounds_never_close (rs : List Bool) : ∀ (s : St), s.pingThread = true → s.outstanding = 0 →
    (∀ d, Out.closed d ∉ (run s (answeredRounds rs)).2) ∧ (run s (answeredRounds rs)).1.outstanding = 0 ∧
    (run s (answeredRounds rs)).1.pingThread = true := by
  induction rs with
  | nil => intro s ht ho; exact ⟨fun _ => nofun, ho, ht⟩
  | cons r rs ih =>
    intro s ht ho
    obtain ⟨tick, _, _, ht1⟩ := ping_answered_never_closes s ht ho
    obtain ⟨ht2, ho2, pong⟩ := pong_answers (step s .pingTick).1 r
    obtain ⟨rest, ho3, ht3⟩ := ih _ (ht2.trans ht1) ho2
    simp only [answeredRounds, run]
    refine ⟨fun d hd => ?_, ho3, ht3⟩
    simp only [List.mem_append] at hd
    rcases hd with hd | hd | hd
    · exact tick d hd
    · exact pong d hd
    · exact rest d hd

theorem loop_resets_keepalive {s : St} (h : 0 < s.pendingDown) :
    (step s .loop).1.outstanding = 0 ∧ (step s .loop).1.pingThread = false ∧ Out.downAll ∈ (step s .loop).2 := by
  rcases step_loop s with ⟨h0, _⟩ | ⟨hm, q, p, rf, c, ds, m, e⟩
  · exact absurd h0 (Nat.ne_of_gt h)
  · rw [e]; exact ⟨rfl, rfl, hm⟩

theorem step_config (s : St) (h : Inv s) (i : In) :
    (step s i).1.unknownErrRaises = s.unknownErrRaises ∧ (step s i).1.control = s.control ∧
    (s.control = false → s.rebootFlag = false → (step s i).1.rebootFlag = false) := by
  rcases (step_move s h i).2.2 with hk | rfl | ⟨rfl, hc⟩
  · exact ⟨hk.unknownErrRaises, hk.control, fun _ hb => hk.rebootFlag.trans hb⟩
  · rcases step_loop s with ⟨_, e⟩ | ⟨_, q, p, rf, c, ds, m, e⟩ <;> rw [e]
    · exact ⟨rfl, rfl, fun _ hb => hb⟩
    · exact ⟨rfl, rfl, fun _ _ => rfl⟩
  · rw [step_keysFlushed hc]
    have hk := destroyConnection_keep (s := { s with rebootFlag := true }) (h.frame rfl rfl rfl rfl) (.refl _)
    exact ⟨hk.unknownErrRaises, hk.control, fun hf => by rw [hc] at hf; cases hf⟩

/-- a set reboot flag has its deferred 'disconnected' still queued -/
def RebootQueued (s : St) : Prop := s.rebootFlag = true → 1 ≤ s.pendingDown

theorem loop_clears (s : St) (hj : RebootQueued s) : (step s .loop).1.rebootFlag = false := by
  rcases step_loop s with ⟨h0, e⟩ | ⟨_, q, p, rf, c, ds, m, e⟩
  · rw [e]
    exact Bool.eq_false_iff.2 fun hb => absurd h0 (Nat.ne_of_gt (hj hb))
  · rw [e]

theorem rebootQueued_step (s : St) (hinv : Inv s) (i : In) (ha : Allowed s i = true) (hj : RebootQueued s) :
    RebootQueued (step s i).1 := by
  rcases (step_move s hinv i).2.2 with hk | rfl | ⟨rfl, hctl⟩
  · intro hb
    rw [hk.rebootFlag] at hb
    exact Nat.le_trans (hj hb) hk.pendingDown
  · intro hb
    rw [loop_clears s hj] at hb; cases hb
  · -- the upload is confirmed on a connected layer: the connection is closed, its 'disconnected' queued
    simp only [Allowed, Bool.and_eq_true, beq_iff_eq] at ha
    obtain ⟨d, _, e⟩ := destroyConnection_live (s := { s with rebootFlag := true }) (hinv.frame rfl rfl rfl rfl)
      (.inr ha.1.1)
    rw [step_keysFlushed hctl, e]
    intro _
    exact Nat.le_add_left 1 _

theorem run_inv (s : St) (h : Inv s) (is : List In) :
    Inv (run s is).1 ∧ (run s is).1.unknownErrRaises = s.unknownErrRaises ∧ (run s is).1.control = s.control ∧
    (s.control = false → s.rebootFlag = false → (run s is).1.rebootFlag = false) ∧
    (AllowedRun s is = true → RebootQueued s → RebootQueued (run s is).1) := by
  induction is generalizing s with
  | nil => exact ⟨h, rfl, rfl, fun _ hb => hb, fun _ hj => hj⟩
  | cons i is ih =>
    obtain ⟨a, b, c⟩ := step_config s h i
    obtain ⟨hi, a', b', c', e'⟩ := ih (step s i).1 (inv_step s h i)
    refine ⟨hi, a'.trans a, b'.trans b, fun h1 h2 => c' (b.trans h1) (c h1 h2), fun ha hj => ?_⟩
    simp only [AllowedRun, Bool.and_eq_true] at ha
    exact e' ha.2 (rebootQueued_step s h i ha.1 hj)

theorem run_unknownErrRaises (s : St) (h : Inv s) (is : List In) :
    (run s is).1.unknownErrRaises = s.unknownErrRaises := (run_inv s h is).2.1

theorem run_control (s : St) (h : Inv s) (is : List In) : (run s is).1.control = s.control := (run_inv s h is).2.2.1

theorem run_no_reboot (s : St) (h : Inv s) (is : List In) (hc : s.control = false) (hb : s.rebootFlag = false) :
    (run s is).1.rebootFlag = false := (run_inv s h is).2.2.2.1 hc hb

theorem run_rebootQueued (s : St) (h : Inv s) (is : List In) (ha : AllowedRun s is = true) (hj : RebootQueued s) :
    RebootQueued (run s is).1 := (run_inv s h is).2.2.2.2 ha hj

theorem control_reboot (s : St) (hinv : Inv s) (hctl : s.control = true) (hc : s.nstate = .connected)
    (hp : s.pendingDown = 0) :
    let o1 := step s .keysFlushed
    let o2 := step o1.1 .loop
    (∃ d, s.cur = some d ∧ o1.2 = [.closed d, .downNear]) ∧ o2.2 = [.downAll, .created s.disps.length] ∧
    o2.1.rebootFlag = false ∧ o2.1.passive = false ∧ o2.1.nstate = .connecting := by
  obtain ⟨d, a, e⟩ := destroyConnection_live (s := { s with rebootFlag := true }) (hinv.frame rfl rfl rfl rfl) (.inr hc)
  rw [step_keysFlushed hctl, e]
  dsimp only
  rw [loop_down rfl (by show s.pendingDown + 1 = 1; rw [hp])]
  refine ⟨⟨d, a, rfl⟩, ?_, rfl, rfl, rfl⟩
  show [Out.downAll, .created (s.disps.set d _).length] = _
  rw [List.length_set]

end Yow.Life
