/-
  Model/Locks.lean in the configuration in which both release sites are protected by try/finally (`good`): every
  operation from a state with all locks free ends with all locks free and never blocks.
  The core is `sendAt_good`, by induction on the layer: a downward send from layer `i + 1` takes that layer's lock, sends
  from layer `i` — which restores the state — and releases in `finally`, so it restores the state as well.  Going up only
  calls downward sends from states with the locks below free.
-/
import YowsupVerif.Model.Locks
namespace Yow.Locks

def good : Cfg := { toLowerFinally := true, flushFinally := true }

def FreeBelow (s : St) (k : Nat) : Prop := ∀ j, j ≤ k → isHeld s j = false

/-- does the injected failure lie on the downward path starting at layer `i`? -/
def onPath (fail : Option Nat) (i : Nat) : Bool :=
  match fail with
  | some k => decide (k ≤ i)
  | none => false

theorem list_set_set_free (l : List Bool) (i : Nat) (h : l.getD i false = false) :
    (l.set i true).set i false = l := by
  induction l generalizing i with
  | nil => simp
  | cons a t ih =>
    cases i with
    | zero => simp at h; simp [h]
    | succ i => simp at h; simp [ih i (by simpa using h)]

theorem setHeld_setHeld_free (s : St) (i : Nat) (h : isHeld s i = false) :
    setHeld (setHeld s i true) i false = s := by
  cases s
  simp only [setHeld, isHeld] at *
  simp [list_set_set_free _ _ h]

theorem isHeld_setHeld_ne (s : St) (i j : Nat) (b : Bool) (h : j ≠ i) :
    isHeld (setHeld s i b) j = isHeld s j := by
  simp only [isHeld, setHeld, List.getD_eq_getElem?_getD]
  rw [List.getElem?_set_ne (Ne.symm h)]

theorem FreeBelow_mono {s : St} {a b : Nat} (h : FreeBelow s b) (hab : a ≤ b) : FreeBelow s a :=
  fun j hj => h j (Nat.le_trans hj hab)

theorem FreeBelow_setHeld (s : St) (i k : Nat) (b : Bool) (h : FreeBelow s i) (hk : k < i) :
    FreeBelow (setHeld s i b) k := by
  intro j hj
  rw [isHeld_setHeld_ne _ _ _ _ (by omega)]
  exact h j (by omega)

theorem onPath_succ (fail : Option Nat) (i : Nat) (hne : fail ≠ some (i + 1)) :
    onPath fail (i + 1) = onPath fail i := by
  cases fail with
  | none => rfl
  | some k =>
    have : k ≠ i + 1 := fun e => hne (by rw [e])
    exact decide_eq_decide.mpr (by omega)

theorem sendAt_succ (cfg : Cfg) (fail : Option Nat) (i : Nat) (s : St) :
    sendAt cfg fail (i + 1) s = if fail = some (i + 1) then (s, .raised) else toLowerAt cfg fail (i + 1) s := rfl

theorem toLowerAt_of_sendAt {fail : Option Nat} {j : Nat} {s : St} {b : Bool} (hfree : isHeld s j = false)
    (hs : sendAt good fail (j - 1) (setHeld s j true) = (setHeld s j true, if b then .raised else .ok)) :
    toLowerAt good fail j s = (s, if b then .raised else .ok) := by
  simp only [toLowerAt, hfree, hs]
  cases b <;> simp [good, setHeld_setHeld_free s j hfree]

/-- With try/finally a downward send restores the lock state exactly, never blocks, and raises
    exactly when a failure site lies on its path. -/
theorem sendAt_good (fail : Option Nat) (i : Nat) (s : St) (h : FreeBelow s i) :
    sendAt good fail i s = (s, if onPath fail i then Res.raised else Res.ok) := by
  induction i generalizing s with
  | zero =>
    cases fail with
    | none => rfl
    | some k => by_cases hk : k = 0 <;> simp [sendAt, onPath, hk]
  | succ i ih =>
    rw [sendAt_succ]
    by_cases hf : fail = some (i + 1)
    · simp [hf, onPath]
    · rw [if_neg hf, onPath_succ fail i hf]
      exact toLowerAt_of_sendAt (h _ (Nat.le_refl _)) (ih _ (FreeBelow_setHeld s (i + 1) i true h (by omega)))

theorem toLowerAt_good (fail : Option Nat) (j : Nat) (s : St) (hj : 1 ≤ j) (h : FreeBelow s j) :
    toLowerAt good fail j s = (s, if onPath fail (j - 1) then Res.raised else Res.ok) :=
  toLowerAt_of_sendAt (h j (Nat.le_refl _)) (sendAt_good fail (j - 1) _ (FreeBelow_setHeld s j (j - 1) true h (by omega)))

theorem recvAt_good (u : UpSpec) (frame k j : Nat) (s : St) (h : FreeBelow s (j + k)) (hj : 1 ≤ j) :
    let r := recvAt good u frame k j s
    r.2 ≠ Res.blocked ∧ r.1.held = s.held ∧ r.1.flush = s.flush ∧ r.1.queue = s.queue ∧
    (r.2 = Res.ok → r.1.delivered = s.delivered ++ [frame]) ∧
    (r.2 = Res.raised → r.1.delivered = s.delivered) ∧
    (u.failAt = none → u.replyFail = none → r.2 = Res.ok) := by
  induction k generalizing j s with
  | zero => simp [recvAt]
  | succ k ih =>
    have hih := ih (j + 1) s (by rw [show j + 1 + k = j + (k + 1) by omega]; exact h) (by omega)
    by_cases hf : u.failAt = some j
    · simp [recvAt, hf]
    · by_cases hr : u.replyAt = some j
      · have ht := toLowerAt_good u.replyFail j s hj (FreeBelow_mono h (by omega))
        by_cases hp : onPath u.replyFail (j - 1) = true
        · simp only [recvAt, hf, hr, ht, hp, if_true]
          refine ⟨nofun, rfl, rfl, rfl, nofun, fun _ => rfl, fun _ h2 => ?_⟩
          rw [h2] at hp
          cases hp
        · simp only [recvAt, hf, hr, ht, hp, if_true, if_false]
          exact hih
      · simp only [recvAt, hf, hr, if_false]
        exact hih

theorem FreeBelow_of_held {s t : St} {k : Nat} (h : FreeBelow s k) (e : t.held = s.held) : FreeBelow t k := by
  intro j hj
  have := h j hj
  simp only [isHeld] at *
  rw [e]; exact this

theorem flushLoop_good (spec : Nat → UpSpec) (n p fuel : Nat) (s : St) (hp : p < n) (h : FreeBelow s n) :
    let r := flushLoop good spec n p fuel s
    r.2 ≠ Res.blocked ∧ r.1.held = s.held ∧ r.1.flush = s.flush ∧
    (s.queue.length ≤ fuel → (∀ f ∈ s.queue, (spec f).failAt = none ∧ (spec f).replyFail = none) →
      r.2 = Res.ok ∧ r.1.queue = [] ∧ r.1.delivered = s.delivered ++ s.queue) := by
  induction fuel generalizing s with
  | zero =>
    refine ⟨nofun, rfl, rfl, fun hf _ => ?_⟩
    rw [List.eq_nil_of_length_eq_zero (Nat.le_zero.mp hf), List.append_nil]
    exact ⟨rfl, List.eq_nil_of_length_eq_zero (Nat.le_zero.mp hf), rfl⟩
  | succ fuel ih =>
    cases hq : s.queue with
    | nil => simp [flushLoop, hq]
    | cons f rest =>
      have hs' : FreeBelow { s with queue := rest } (p + 1 + (n - (p + 1))) := by
        rw [show p + 1 + (n - (p + 1)) = n by omega]
        exact FreeBelow_of_held h rfl
      obtain ⟨hnb, hheld, hflush, hqueue, hdeliv, -, hok⟩ := recvAt_good (spec f) f (n - (p + 1)) (p + 1) { s with queue := rest } hs' (by omega)
      simp only [flushLoop, hq]
      cases hres : (recvAt good (spec f) f (n - (p + 1)) (p + 1) { s with queue := rest }).2 with
      | ok =>
        -- `f` is delivered; the loop goes on with the rest of the queue
        obtain ⟨inb, iheld, iflush, irest⟩ := ih _ (FreeBelow_of_held h hheld)
        refine ⟨inb, iheld.trans hheld, iflush.trans hflush, fun hf hq' => ?_⟩
        obtain ⟨rok, rqueue, rdeliv⟩ := irest (by rw [hqueue]; exact Nat.le_of_succ_le_succ hf)
          (by rw [hqueue]; exact fun g hg => hq' g (List.mem_cons_of_mem _ hg))
        refine ⟨rok, rqueue, ?_⟩
        rw [rdeliv, hqueue, hdeliv hres, List.append_assoc]
        rfl
      | raised =>
        refine ⟨nofun, hheld, hflush, fun _ hq' => ?_⟩
        have := hq' f List.mem_cons_self
        exact absurd (hres ▸ hok this.1 this.2) nofun
      | blocked => exact absurd hres hnb

theorem AllFree_FreeBelow {s : St} (h : AllFree s) (k : Nat) : FreeBelow s k := by
  intro j _
  simp only [isHeld, List.getD_eq_getElem?_getD]
  by_cases hj : j < s.held.length
  · rw [List.getElem?_eq_getElem hj]
    exact h.1 _ (List.getElem_mem hj)
  · rw [List.getElem?_eq_none (by omega)]; rfl

theorem noiseReceive_good (spec : Nat → UpSpec) (n p frame : Nat) (s : St) (hfl : s.flush = false) {r : St × Res}
    (hr : flushLoop good spec n p (s.queue ++ [frame]).length { s with queue := s.queue ++ [frame], flush := true } = r)
    (hb : r.2 ≠ Res.blocked) : noiseReceive good spec n p frame s = ({ r.1 with flush := false }, r.2) := by
  simp only [noiseReceive, hfl, Bool.false_eq_true, if_false, hr]
  obtain ⟨s', res⟩ := r
  cases res with
  | ok => rfl
  | raised => rfl
  | blocked => exact absurd rfl hb

theorem step_good (spec : Nat → UpSpec) (n p : Nat) (hp : p < n) (s : St) (h : AllFree s) (op : Op) :
    AllFree (step good spec n p s op).1 ∧ (step good spec n p s op).2 ≠ Res.blocked := by
  cases op with
  | send fail =>
    simp only [step, sendAt_good fail (n - 1) s (AllFree_FreeBelow h _)]
    refine ⟨h, ?_⟩
    split <;> simp
  | recv frame =>
    obtain ⟨hnb, hheld, -⟩ := flushLoop_good spec n p (s.queue ++ [frame]).length
      { s with queue := s.queue ++ [frame], flush := true } hp (FreeBelow_of_held (AllFree_FreeBelow h n) rfl)
    simp only [step, noiseReceive_good spec n p frame s h.2 rfl hnb]
    exact ⟨⟨fun b hb => h.1 b (hheld ▸ hb), rfl⟩, hnb⟩
  | enq frame => exact ⟨h, nofun⟩

theorem followup_receive_good (spec : Nat → UpSpec) (n p : Nat) (hp : p < n) (s : St) (hs : AllFree s) (frame : Nat)
    (hq : ∀ f ∈ s.queue ++ [frame], (spec f).failAt = none ∧ (spec f).replyFail = none) :
    (step good spec n p s (.recv frame)).2 = Res.ok ∧ (step good spec n p s (.recv frame)).1.queue = [] ∧
    (step good spec n p s (.recv frame)).1.delivered = s.delivered ++ s.queue ++ [frame] := by
  obtain ⟨hnb, -, -, hall⟩ := flushLoop_good spec n p (s.queue ++ [frame]).length
    { s with queue := s.queue ++ [frame], flush := true } hp (FreeBelow_of_held (AllFree_FreeBelow hs n) rfl)
  obtain ⟨hok, hqueue, hdeliv⟩ := hall (Nat.le_refl _) hq
  simp only [step, noiseReceive_good spec n p frame s hs.2 rfl hnb]
  exact ⟨hok, hqueue, by simpa [List.append_assoc] using hdeliv⟩

theorem run_good (spec : Nat → UpSpec) (n p : Nat) (hp : p < n) (s : St) (h : AllFree s) (ops : List Op) :
    AllFree (run good spec n p s ops).1 ∧ ∀ r ∈ (run good spec n p s ops).2, r ≠ Res.blocked := by
  induction ops generalizing s with
  | nil => exact ⟨h, nofun⟩
  | cons op ops ih =>
    have hs := step_good spec n p hp s h op
    have hi := ih _ hs.1
    exact ⟨hi.1, List.forall_mem_cons.mpr ⟨hs.2, hi.2⟩⟩

theorem init_allFree (n : Nat) : AllFree (init n) :=
  ⟨fun _ hb => List.eq_of_mem_replicate hb, rfl⟩

end Yow.Locks
