/-
  Logins on one stack when `on_auth` resets the segmentation switch first: each puts the fresh login on the wire, whatever
  the connection before it left behind.
-/
import YowsupVerif.Model.Login
namespace Yow.Login

theorem login_fresh (edge : Bool) (s : St) :
    login { resetFirst := true } edge s = ({ segEnabled := true }, fresh edge) := by
  cases edge <;> rfl

theorem logins_fresh (s : St) (es : List Bool) :
    logins { resetFirst := true } s es = es.map fresh := by
  induction es generalizing s with
  | nil => rfl
  | cons e es ih => simp only [logins, login_fresh, ih, List.map_cons]

end Yow.Login
