/-
  Lemmas for the media cipher model (Model/MediaCipher.lean).  PKCS#7: `unpad` is the exact inverse of `pad`
  (`unpad_eq_some_iff`); both directions reduce to arithmetic on the length modulo 16.  `encrypt`/`decrypt`: the input
  is a body followed by the ten bytes of its tag, and `decrypt` compares those before anything else.
-/
import YowsupVerif.Model.MediaCipher
namespace Yow.Media

private theorem pad_arith (m : Nat) : m + (16 - m % 16) = (m / 16 + 1) * 16 :=
  calc m + (16 - m % 16)
      = 16 * (m / 16) + (m % 16 + (16 - m % 16)) := by rw [← Nat.add_assoc, Nat.div_add_mod]
    _ = (m / 16 + 1) * 16 := by
      rw [Nat.add_sub_of_le (Nat.le_of_lt (Nat.mod_lt m (by decide))), Nat.add_mul, Nat.one_mul,
        Nat.mul_comm]

theorem pad_length (p : Bytes) : (pad p).length = (p.length / 16 + 1) * 16 := by
  rw [pad, List.length_append, List.length_replicate, pad_arith]

theorem pad_length_mod (p : Bytes) : (pad p).length % 16 = 0 := by
  rw [pad_length, Nat.mul_mod_left]

theorem unpad_append_replicate (p : Bytes) (n : Nat) (h1 : 1 ≤ n) (h16 : n ≤ 16)
    (hlen : (p.length + n) % 16 = 0) : unpad (p ++ List.replicate n n) = some p := by
  have hl : (p ++ List.replicate n n).length = p.length + n := by
    rw [List.length_append, List.length_replicate]
  have hlast : (p ++ List.replicate n n).getLastD 0 = n := by
    obtain ⟨k, rfl⟩ : ∃ k, n = k + 1 := ⟨n - 1, (Nat.sub_add_cancel h1).symm⟩
    rw [List.replicate_succ', ← List.append_assoc, List.getLastD_concat]
  have hall : (List.replicate n n).all (fun b => b == n) = true :=
    List.all_eq_true.mpr fun b hb => beq_iff_eq.mpr (List.eq_of_mem_replicate hb)
  have hpos : p.length + n ≠ 0 := Nat.ne_of_gt (Nat.lt_of_lt_of_le h1 (Nat.le_add_left n _))
  unfold unpad
  simp only [hl, hlast, Nat.add_sub_cancel, List.drop_left, List.take_left]
  rw [if_neg (fun h => h.elim hpos (· hlen)),
    if_neg (fun h => h.elim (Nat.ne_of_gt h1) (Nat.not_lt.mpr h16)), if_pos hall]

theorem unpad_pad (p : Bytes) : unpad (pad p) = some p :=
  have hr : p.length % 16 < 16 := Nat.mod_lt _ (by decide)
  unpad_append_replicate p _ (Nat.sub_pos_of_lt hr) (Nat.sub_le _ _)
    (by rw [pad_arith, Nat.mul_mod_left])

/-- The padding that ends a whole number `L` of blocks with `n` bytes, `1 ≤ n ≤ 16`, is the one
    `pad` gives the `L - n` bytes before it. -/
private theorem pad_amount {L n : Nat} (hm : L % 16 = 0) (h1 : n ≠ 0) (h16 : n ≤ 16) (hnL : n ≤ L) :
    16 - (L - n) % 16 = n := by
  obtain ⟨k, rfl⟩ := Nat.dvd_of_mod_eq_zero hm
  cases k with
  | zero => exact absurd (Nat.le_zero.mp hnL) h1
  | succ k =>
    rw [Nat.mul_succ, Nat.add_sub_assoc h16, Nat.mul_add_mod,
      Nat.mod_eq_of_lt (Nat.sub_lt (by decide) (Nat.pos_of_ne_zero h1)), Nat.sub_sub_self h16]

theorem pad_of_unpad (d p : Bytes) (h : unpad d = some p) : pad p = d := by
  simp only [unpad, Option.ite_none_left_eq_some, Option.ite_none_right_eq_some, Option.some.injEq,
    not_or, Decidable.not_not, Nat.not_lt] at h
  obtain ⟨⟨hL0, hLm⟩, ⟨hn0, hn16⟩, hall, rfl⟩ := h
  generalize d.getLastD 0 = n at *
  have hnL : n ≤ d.length :=
    Nat.le_trans hn16 (Nat.le_of_dvd (Nat.pos_of_ne_zero hL0) (Nat.dvd_of_mod_eq_zero hLm))
  have hdrop : d.drop (d.length - n) = List.replicate n n :=
    List.eq_replicate_iff.mpr ⟨by rw [List.length_drop, Nat.sub_sub_self hnL],
      fun b hb => beq_iff_eq.mp (List.all_eq_true.mp hall b hb)⟩
  rw [pad, List.length_take, Nat.min_eq_left (Nat.sub_le _ _), pad_amount hLm hn0 hn16 hnL, ← hdrop,
    List.take_append_drop]

theorem unpad_eq_some_iff (d p : Bytes) : unpad d = some p ↔ pad p = d :=
  ⟨pad_of_unpad d p, fun h => h ▸ unpad_pad p⟩

theorem take_body (body t : Bytes) (ht : t.length = 10) :
    (body ++ t).take ((body ++ t).length - 10) = body := by
  rw [List.length_append, ht, Nat.add_sub_cancel, List.take_left]

theorem drop_tag (body t : Bytes) (ht : t.length = 10) :
    (body ++ t).drop ((body ++ t).length - 10) = t := by
  rw [List.length_append, ht, Nat.add_sub_cancel, List.drop_left]

theorem tag_length (c : Crypto) (hc : c.OK) (d ct : Bytes) : (tag c d ct).length = 10 := by
  rw [tag, List.length_take, hc.mac_len]; rfl

theorem decrypt_bad_tag (c : Crypto) (x refKey info : Bytes)
    (h : x.drop (x.length - 10) ≠ tag c (c.hkdf refKey info) (x.take (x.length - 10))) :
    decrypt c x refKey info = .error .invalidMac :=
  if_pos h

theorem decrypt_append_bad_tag (c : Crypto) (body t refKey info : Bytes) (ht : t.length = 10)
    (h : t ≠ tag c (c.hkdf refKey info) body) : decrypt c (body ++ t) refKey info = .error .invalidMac := by
  apply decrypt_bad_tag
  rwa [drop_tag _ _ ht, take_body _ _ ht]

theorem decrypt_ok_verified (c : Crypto) (x refKey info q : Bytes) (h : decrypt c x refKey info = .ok q) :
    x.drop (x.length - 10) = tag c (c.hkdf refKey info) (x.take (x.length - 10)) :=
  Decidable.byContradiction fun hne => by
    rw [decrypt_bad_tag c x refKey info hne] at h
    cases h

end Yow.Media
