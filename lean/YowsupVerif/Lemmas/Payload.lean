/-
  Round-trip theorems for the payload converter model (Model/Payload.lean), for any schema table that passes the decidable
  test `tableGood`.  `roundtrip` (encode, then decode) is proved field by field with the accumulator invariant `Enc`;
  what is decoded from a peer's payload is well-typed (`decode_wt`), so `reserialise` is the same round trip applied to the
  decoded value.  Values and payloads are mutually nested with their field lists, hence the two pairs of motives
  `RtVal`/`RtVals` and `DwVal`/`DwFields`.
-/
import YowsupVerif.Lemmas.PayloadBase
namespace Yow.Payload

section
variable {tbl : Table} {bad : List Nat} {f : Field} {fs : Schema} {vs : Vals} {acc : PFields}

theorem encodeFields_none (hna : f.fwd ≠ .always) :
    encodeFields tbl (f :: fs) (.cons .none vs) acc = encodeFields tbl fs vs acc := by
  rw [encodeFields, if_neg hna]

theorem encodeFields_scalar (hf : FieldOK f) (n : Nat) :
    encodeFields tbl (f :: fs) (.cons (.scalar n) vs) acc =
      encodeFields tbl fs vs (pset acc f.target (.scalar n)) := by
  simp [encodeFields, hf.raises, hf.fwd_ne_never, hf.fwd_ne_truthy]

theorem encodeFields_list_nil (hf : FieldOK f) :
    encodeFields tbl (f :: fs) (.cons (.list []) vs) acc = encodeFields tbl fs vs acc := by
  simp [encodeFields, hf.raises]

theorem encodeFields_list (hf : FieldOK f) {xs : List Nat} (hx : xs ≠ []) :
    encodeFields tbl (f :: fs) (.cons (.list xs) vs) acc =
      encodeFields tbl fs vs (pset acc f.target (.list xs)) := by
  simp [encodeFields, hf.raises, hf.fwd_ne_never, hx]

theorem encodeFields_obj (hf : FieldOK f) {sid : Nat} (hk : f.kind = .sub sid) (sub : Vals) :
    encodeFields tbl (f :: fs) (.cons (.obj sub) vs) acc =
      (encodeObj tbl sid (.obj sub)).bind fun q => encodeFields tbl fs vs (pset acc f.target (.msg q)) := by
  simp only [encodeFields, hf.raises, hf.fwd_ne_never, hk, Bool.false_eq_true, if_false]
  cases encodeObj tbl sid (.obj sub) <;> rfl

theorem decodeVal_scalar {f : Field} (hf : FieldOK f) (n : Nat) :
    decodeVal tbl f (.scalar n) = .scalar n := by
  simp [decodeVal, hf.bwd_ne_truthy]

theorem decodeVal_msg {f : Field} {sid : Nat} (hk : f.kind = .sub sid) (q : PFields) :
    decodeVal tbl f (.msg q) = .obj (decodeSchema tbl (tbl.getD sid []) q) := by
  simp only [decodeVal, hk]

def wtField (tbl : Table) (bad : List Nat) (f : Field) (v : Val) : Bool :=
  match v, f.kind with
  | .none, .scalar => f.fwd != .always
  | .none, .sub _ => f.fwd != .always
  | .scalar _, .scalar => true
  | .list _, .list => true
  | .obj sub, .sub sid => wtObj tbl bad sid (.obj sub)
  | _, _ => false

theorem wtFields_cons (tbl : Table) (bad : List Nat) (f : Field) (fs : Schema) (v : Val) (vs : Vals) :
    wtFields tbl bad (f :: fs) (.cons v vs) = (wtField tbl bad f v && wtFields tbl bad fs vs) := by
  obtain ⟨kind, _, _, _, _, _⟩ := f
  cases v <;> cases kind <;> rfl

theorem wtField_none {f : Field} (h : wtField tbl bad f .none = true) :
    f.fwd ≠ .always ∧ f.kind ≠ .list := by
  cases hk : f.kind <;> simp [wtField, hk] at h <;> simp [h]

theorem wtField_list {f : Field} {xs : List Nat}
    (h : wtField tbl bad f (.list xs) = true) : f.kind = .list := by
  cases hk : f.kind <;> simp [wtField, hk] at h <;> rfl

theorem wtField_obj {f : Field} {sub : Vals}
    (h : wtField tbl bad f (.obj sub) = true) : ∃ sid', f.kind = .sub sid' ∧ wtObj tbl bad sid' (.obj sub) = true := by
  cases hk : f.kind <;> simp [wtField, hk] at h
  exact ⟨_, rfl, h⟩

def RtVal (tbl : Table) (bad : List Nat) (v : Val) : Prop :=
  ∀ sid, wtObj tbl bad sid v = true → ∃ p, encodeObj tbl sid v = some p ∧ decodeObj tbl sid p = v

/-- whether the encoder writes a field for this value -/
def written : Val → Bool
  | .none => false
  | .list xs => !xs.isEmpty
  | _ => true

/-- `p` encodes `vs` under `fs` on top of `acc` -/
structure Enc (tbl : Table) (fs : Schema) (vs : Vals) (acc p : PFields) : Prop where
  enc : encodeFields tbl fs vs acc = some p
  dec : decodeSchema tbl fs p = vs
  pres : ∀ f ∈ fs, (plookup p f.target).isSome = written (decodeField tbl f p)
  frame : ∀ k, (∀ f ∈ fs, f.target ≠ k) → plookup p k = plookup acc k

/-- The round trip of a list of field values, in the form the induction over the fields needs: under any good schema
    they are well-typed for, on top of any accumulator that has none of the schema's numbers yet. -/
def RtVals (tbl : Table) (bad : List Nat) (vs : Vals) : Prop :=
  ∀ (fs : Schema) (acc : PFields), SchOK fs → wtFields tbl bad fs vs = true →
    (∀ f ∈ fs, plookup acc f.target = none) → ∃ p, Enc tbl fs vs acc p

/-- The head field of a good schema, written as `w?` (`none`: not written, the case exactly for the values `written`
    rejects).  If that is what the encoder does with `v` and what the head decodes back to `v` from, the round trip of
    the remaining fields extends to the head: they are encoded into an accumulator that differs from `acc` at most at
    the head's own number. -/
theorem rt_head {f : Field} {fs : Schema} {v : Val} {vs : Vals} {acc : PFields} (hs : SchOK (f :: fs))
    (ih : ∀ acc', (∀ g ∈ fs, plookup acc' g.target = none) → ∃ p, Enc tbl fs vs acc' p)
    (hacc : ∀ g ∈ f :: fs, plookup acc g.target = none) (w? : Option PVal)
    (henc : encodeFields tbl (f :: fs) (.cons v vs) acc =
      encodeFields tbl fs vs (w?.elim acc (pset acc f.target)))
    (hdec : ∀ p, plookup p f.source = w? → decodeField tbl f p = v) (hw : w?.isSome = written v) :
    ∃ p, Enc tbl (f :: fs) (.cons v vs) acc p := by
  have hacc' : ∀ k, k ≠ f.target → plookup (w?.elim acc (pset acc f.target)) k = plookup acc k := by
    cases w? with
    | none => exact fun _ _ => rfl
    | some w => exact fun _ hk => plookup_pset_ne _ _ _ _ hk
  have hw' : plookup (w?.elim acc (pset acc f.target)) f.target = w? := by
    cases w? with
    | none => exact hacc f (List.mem_cons_self ..)
    | some w => exact plookup_pset_self ..
  obtain ⟨p, e⟩ := ih _ fun g hg =>
    (hacc' _ (hs.head_notin g hg)).trans (hacc g (List.mem_cons_of_mem _ hg))
  have hts := (hs.fields f (List.mem_cons_self ..)).ts
  have hsrc : plookup p f.source = w? := by
    rw [← hts, e.frame _ (fun g hg => hs.head_notin g hg), hw']
  refine ⟨p, henc.trans e.enc, by rw [decodeSchema, e.dec, hdec p hsrc], fun g hg => ?_, fun k hk => ?_⟩
  · rcases List.mem_cons.mp hg with rfl | hg
    · rw [hts, hsrc, hdec p hsrc, hw]
    · exact e.pres g hg
  · rw [e.frame k (fun g hg => hk g (List.mem_cons_of_mem _ hg))]
    exact hacc' k (fun e => hk f (List.mem_cons_self ..) e.symm)

theorem wtObj_obj {sid : Nat} {fields : Vals} :
    wtObj tbl bad sid (.obj fields) = true ↔
      bad.contains sid = false ∧ sid < tbl.length ∧ wtFields tbl bad (tbl.getD sid []) fields = true := by
  simp only [wtObj, Bool.and_eq_true, Bool.not_eq_true', decide_eq_true_eq, and_assoc]

theorem rt_obj (hg : tableGood tbl bad = true) {fields : Vals}
    (ih : RtVals tbl bad fields) : RtVal tbl bad (.obj fields) := by
  intro sid hw
  obtain ⟨hb, hlt, hf⟩ := wtObj_obj.mp hw
  obtain ⟨p, e⟩ := ih (tbl.getD sid []) .nil (tableGood_sch hg hb hlt) hf (fun _ _ => rfl)
  exact ⟨p, e.enc, congrArg Val.obj e.dec⟩

theorem rt_nil (tbl : Table) (bad : List Nat) : RtVals tbl bad .nil := by
  intro fs acc _ hw _
  cases fs with
  | nil => exact ⟨acc, rfl, by rw [decodeSchema], fun _ h => absurd h List.not_mem_nil, fun _ _ => rfl⟩
  | cons f fs => simp [wtFields] at hw

theorem rt_cons {v : Val} {vs : Vals}
    (ihv : RtVal tbl bad v) (ihs : RtVals tbl bad vs) : RtVals tbl bad (.cons v vs) := by
  intro fs acc hs hw hacc
  cases fs with
  | nil => simp [wtFields] at hw
  | cons f fs =>
  rw [wtFields_cons, Bool.and_eq_true] at hw
  obtain ⟨hwf, hws⟩ := hw
  have hf := hs.fields f (List.mem_cons_self ..)
  have hn := hf.bwd_ne_never
  have ih := fun acc' h => ihs fs acc' hs.tail hws h
  cases v with
  | none =>
    obtain ⟨hfa, hkl⟩ := wtField_none hwf
    have hba : f.bwd ≠ .always := fun e => hfa (hf.bwd_always.mp e)
    exact rt_head hs ih hacc none (encodeFields_none hfa) (fun p hp => by
      rw [decodeField_of_none hn hp, if_neg hkl, if_neg hba]) rfl
  | scalar n =>
    exact rt_head hs ih hacc (some (.scalar n)) (encodeFields_scalar hf n) (fun p hp => by
      rw [decodeField_of_some hn hp, decodeVal_scalar hf]) rfl
  | list xs =>
    have hk := wtField_list hwf
    by_cases hx : xs = []
    · subst hx
      exact rt_head hs ih hacc none (encodeFields_list_nil hf) (fun p hp => by
        rw [decodeField_of_none hn hp, if_pos hk]) rfl
    · exact rt_head hs ih hacc (some (.list xs)) (encodeFields_list hf hx) (fun p hp => by
        rw [decodeField_of_some hn hp, decodeVal]) (by cases xs; exact absurd rfl hx; rfl)
  | obj sub =>
    obtain ⟨sid', hk, hsub⟩ := wtField_obj hwf
    obtain ⟨q, q1, q2⟩ := ihv sid' hsub
    exact rt_head hs ih hacc (some (.msg q)) (by rw [encodeFields_obj hf hk, q1, Option.bind_some]; rfl) (fun p hp => by
      rw [decodeField_of_some hn hp, decodeVal_msg hk]
      exact q2) rfl

theorem rt_vals (tbl : Table) (bad : List Nat) (hg : tableGood tbl bad = true) (vs : Vals) : RtVals tbl bad vs :=
  -- the three shapes that are not objects are never `wtObj`
  Vals.rec (motive_1 := RtVal tbl bad) (motive_2 := RtVals tbl bad)
    (fun sid hw => by simp [wtObj] at hw) (fun _ sid hw => by simp [wtObj] at hw)
    (fun _ sid hw => by simp [wtObj] at hw) (fun _ ih => rt_obj hg ih)
    (rt_nil tbl bad) (fun _ _ ihv ihs => rt_cons ihv ihs) vs

theorem required_mem {sch : Schema} {q : PFields} (h : requiredPresent sch q = true) :
    ∀ f ∈ sch, f.fwd = .always → (plookup q f.source).isSome = true := by
  intro f hf ha
  simp only [requiredPresent, List.all_eq_true] at h
  have := h f hf
  simpa [ha] using this

theorem pwtObj_iff {sid : Nat} {p : PFields} :
    pwtObj tbl bad sid p = true ↔
      bad.contains sid = false ∧ sid < tbl.length ∧ pwtFields tbl bad (tbl.getD sid []) p = true ∧
        requiredPresent (tbl.getD sid []) p = true := by
  simp only [pwtObj, Bool.and_eq_true, Bool.not_eq_true', decide_eq_true_eq, and_assoc]

theorem wtFields_decodeSchema {p : PFields} (fs : Schema) (h : ∀ f ∈ fs, wtField tbl bad f (decodeField tbl f p) = true) :
    wtFields tbl bad fs (decodeSchema tbl fs p) = true := by
  induction fs with
  | nil => rw [decodeSchema, wtFields]
  | cons f fs ih =>
    rw [decodeSchema, wtFields_cons, Bool.and_eq_true]
    exact ⟨h f (List.mem_cons_self ..), ih fun g hg => h g (List.mem_cons_of_mem _ hg)⟩

theorem pwt_lookup_find {sch : Schema} {j : Nat} {w : PVal} :
    (p : PFields) → pwtFields tbl bad sch p = true → plookup p j = some w →
    ∃ f, sch.find? (fun f => f.source == j) = some f ∧ pwtVal tbl bad f w = true
  | .nil, _, hl => by rw [plookup] at hl; cases hl
  | .cons k v rest, hp, hl => by
    simp only [pwtFields, Bool.and_eq_true] at hp
    obtain ⟨⟨hv, _⟩, hrest⟩ := hp
    rw [plookup] at hl
    by_cases h : k = j
    · rw [if_pos h, Option.some.injEq] at hl
      subst h hl
      cases hfind : sch.find? (fun f => f.source == k) with
      | none => rw [hfind] at hv; cases hv
      | some f => rw [hfind] at hv; exact ⟨f, rfl, hv⟩
    · rw [if_neg h] at hl
      exact pwt_lookup_find rest hrest hl

theorem pwt_lookup {sch : Schema} (hs : SchOK sch) {f : Field} (hfm : f ∈ sch)
    {w : PVal} (p : PFields) (hp : pwtFields tbl bad sch p = true) (hl : plookup p f.source = some w) :
    pwtVal tbl bad f w = true := by
  obtain ⟨g, hg, hw⟩ := pwt_lookup_find p hp hl
  rw [hs.find_source hfm, Option.some.injEq] at hg
  rwa [hg]

def DwVal (tbl : Table) (bad : List Nat) (v : PVal) : Prop :=
  ∀ f, FieldOK f → pwtVal tbl bad f v = true → wtField tbl bad f (decodeVal tbl f v) = true

def DwFields (tbl : Table) (bad : List Nat) (p : PFields) : Prop :=
  ∀ j w, plookup p j = some w → DwVal tbl bad w

theorem dw_scalar (tbl : Table) (bad : List Nat) (n : Nat) : DwVal tbl bad (.scalar n) := by
  intro f hf hp
  simp only [pwtVal, beq_iff_eq] at hp
  simp [decodeVal, hf.bwd_ne_truthy, wtField, hp]

theorem dw_list (tbl : Table) (bad : List Nat) (xs : List Nat) : DwVal tbl bad (.list xs) := by
  intro f hf hp
  simp only [pwtVal, Bool.and_eq_true, beq_iff_eq] at hp
  simp [decodeVal, wtField, hp.1]

/-- an absent field is optional and reads as unset (a repeated one as the empty list) -/
theorem dw_field {sch : Schema} (hs : SchOK sch) {p : PFields} (hp : pwtFields tbl bad sch p = true)
    (ih : DwFields tbl bad p) {f : Field} (hfm : f ∈ sch)
    (hreq : f.fwd = .always → (plookup p f.source).isSome = true) :
    wtField tbl bad f (decodeField tbl f p) = true := by
  have hf := hs.fields f hfm
  cases hl : plookup p f.source with
  | some w =>
    rw [decodeField_of_some hf.bwd_ne_never hl]
    exact ih _ w hl f hf (pwt_lookup hs hfm p hp hl)
  | none =>
    rw [decodeField_of_none hf.bwd_ne_never hl]
    rcases hf.rules with ⟨h1, _⟩ | ⟨h1, h2⟩
    · rw [hl] at hreq
      exact absurd (hreq h1) Bool.false_ne_true
    · cases hk : f.kind <;> simp [h1, h2, hk, wtField]

theorem decode_wt_of (hg : tableGood tbl bad = true) {sid : Nat} {p : PFields}
    (ih : DwFields tbl bad p) (hp : pwtObj tbl bad sid p = true) :
    wtObj tbl bad sid (decodeObj tbl sid p) = true := by
  obtain ⟨hb, hlt, hq, hr⟩ := pwtObj_iff.mp hp
  have hs := tableGood_sch hg hb hlt
  exact wtObj_obj.mpr ⟨hb, hlt, wtFields_decodeSchema _ fun g hgm => dw_field hs hq ih hgm (required_mem hr g hgm)⟩

theorem dw_msg (hg : tableGood tbl bad = true) {q : PFields}
    (ih : DwFields tbl bad q) : DwVal tbl bad (.msg q) := by
  intro f hf hp
  cases hk : f.kind with
  | scalar => simp [pwtVal, hk] at hp
  | list => simp [pwtVal, hk] at hp
  | sub sid =>
    -- for a nested field `pwtVal` is `pwtObj` of the nested schema, and `wtField` of an object is `wtObj`
    have hq : pwtObj tbl bad sid q = true := by simpa only [pwtVal, hk, pwtObj] using hp
    have h := decode_wt_of hg ih hq
    rw [decodeVal_msg hk]
    simpa only [wtField, hk, decodeObj] using h

theorem dw_fields (tbl : Table) (bad : List Nat) (hg : tableGood tbl bad = true) (p : PFields) : DwFields tbl bad p :=
  PFields.rec (motive_1 := DwVal tbl bad) (motive_2 := DwFields tbl bad)
    (dw_scalar tbl bad) (dw_list tbl bad) (fun _ ih => dw_msg hg ih)
    (fun _ _ hl => by rw [plookup] at hl; cases hl)
    (fun k _ _ ihv ihr j w hl => by
      rw [plookup] at hl
      by_cases h : k = j
      · rw [if_pos h, Option.some.injEq] at hl
        exact hl ▸ ihv
      · rw [if_neg h] at hl
        exact ihr j w hl) p

theorem decodeField_congr {p p' : PFields} (fs : Schema) (h : decodeSchema tbl fs p' = decodeSchema tbl fs p) :
    ∀ f ∈ fs, decodeField tbl f p' = decodeField tbl f p := by
  induction fs with
  | nil => exact fun _ hf => absurd hf List.not_mem_nil
  | cons g fs ih =>
    rw [decodeSchema, decodeSchema, Vals.cons.injEq] at h
    exact fun f hf => (List.mem_cons.mp hf).elim (fun e => e ▸ h.1) (ih h.2 f)

theorem written_decodeField {sch : Schema} (hs : SchOK sch) {p : PFields} (hp : pwtFields tbl bad sch p = true)
    (hr : requiredPresent sch p = true) {f : Field} (hfm : f ∈ sch) :
    written (decodeField tbl f p) = (plookup p f.source).isSome := by
  have hf := hs.fields f hfm
  cases hl : plookup p f.source with
  | none =>
    have hna : f.bwd ≠ .always := fun e => by
      have := required_mem hr f hfm (hf.bwd_always.mp e)
      rw [hl] at this
      cases this
    rw [decodeField_of_none hf.bwd_ne_never hl]
    by_cases hkl : f.kind = .list
    · rw [if_pos hkl]; rfl
    · rw [if_neg hkl, if_neg hna]; rfl
  | some w =>
    have hw := pwt_lookup hs hfm p hp hl
    rw [decodeField_of_some hf.bwd_ne_never hl]
    cases w with
    | scalar n => rw [decodeVal_scalar hf]; rfl
    | list xs =>
      simp only [pwtVal, Bool.and_eq_true] at hw
      rw [decodeVal]
      exact hw.2
    | msg q =>
      cases hk : f.kind with
      | scalar => simp [pwtVal, hk] at hw
      | list => simp [pwtVal, hk] at hw
      | sub sid' => rw [decodeVal_msg hk]; rfl

end

theorem roundtrip (tbl : Table) (bad : List Nat) (hg : tableGood tbl bad = true) (sid : Nat) (v : Val)
    (hw : wtObj tbl bad sid v = true) :
    ∃ p, encodeObj tbl sid v = some p ∧ decodeObj tbl sid p = v := by
  cases v with
  | obj fields => exact rt_obj hg (rt_vals tbl bad hg fields) sid hw
  | _ => simp [wtObj] at hw

theorem decode_wt (tbl : Table) (bad : List Nat) (hg : tableGood tbl bad = true) (sid : Nat) (p : PFields)
    (hp : pwtObj tbl bad sid p = true) :
    wtObj tbl bad sid (decodeObj tbl sid p) = true :=
  decode_wt_of hg (dw_fields tbl bad hg p) hp

theorem reserialise (tbl : Table) (bad : List Nat) (hg : tableGood tbl bad = true) (sid : Nat) (p : PFields)
    (hp : pwtObj tbl bad sid p = true) :
    ∃ p', encodeObj tbl sid (decodeObj tbl sid p) = some p' ∧ decodeObj tbl sid p' = decodeObj tbl sid p ∧
      ∀ k, (plookup p' k).isSome = (plookup p k).isSome := by
  obtain ⟨hb, hlt, hq, hr⟩ := pwtObj_iff.mp hp
  have hs := tableGood_sch hg hb hlt
  obtain ⟨_, _, hwf⟩ := wtObj_obj.mp (decode_wt tbl bad hg sid p hp)
  obtain ⟨p', e⟩ := rt_vals tbl bad hg _ _ .nil hs hwf (fun _ _ => rfl)
  refine ⟨p', by rw [decodeObj, encodeObj]; exact e.enc, congrArg Val.obj e.dec, fun k => ?_⟩
  by_cases hk : ∃ f ∈ tbl.getD sid [], f.target = k
  · obtain ⟨f, hfm, rfl⟩ := hk
    rw [e.pres f hfm, decodeField_congr _ e.dec f hfm, written_decodeField hs hq hr hfm, (hs.fields f hfm).ts]
  · -- a number the payload has is the number of a schema field
    rw [e.frame k (fun f hf hfk => hk ⟨f, hf, hfk⟩)]
    cases hl : plookup p k with
    | none => rfl
    | some w =>
      obtain ⟨f, hf, _⟩ := pwt_lookup_find p hq hl
      have hfm := List.mem_of_find?_eq_some hf
      exact absurd ⟨f, hfm, (hs.fields f hfm).ts.trans (beq_iff_eq.mp (List.find?_some (p := fun g : Field => g.source == k) hf))⟩ hk

end Yow.Payload
