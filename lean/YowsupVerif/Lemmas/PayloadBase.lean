/-
  Basic lemmas for the payload converter model (Model/Payload.lean): association-list operations, the
  characterisation of `decodeField` by `plookup`, what `tableGood` gives for one schema (`FieldOK`, `SchOK`), and a
  form of `tableGood` that the kernel evaluates quickly (`tableGood_of_check`).
-/
import YowsupVerif.Model.Payload
namespace Yow.Payload

theorem plookup_premove : (p : PFields) → (k j : Nat) →
    plookup (premove p k) j = if k = j then none else plookup p j
  | .nil, k, j => (ite_self _).symm
  | .cons k' v rest, k, j => by
    rw [premove, plookup]
    by_cases h : k' = k
    · rw [if_pos h, plookup_premove rest k j]
      by_cases hj : k = j
      · rw [if_pos hj, if_pos hj]
      · rw [if_neg hj, if_neg hj, if_neg (h ▸ hj)]
    · rw [if_neg h, plookup, plookup_premove rest k j]
      by_cases hj : k' = j
      · rw [if_pos hj, if_pos hj, if_neg (fun e => h (hj.trans e.symm))]
      · rw [if_neg hj, if_neg hj]

theorem plookup_pappend : (p : PFields) → (k j : Nat) → (w : PVal) →
    plookup (pappend p k w) j = (plookup p j).or (if k = j then some w else none)
  | .nil, k, j, w => by rw [pappend, plookup, plookup, plookup, Option.none_or]
  | .cons k' v rest, k, j, w => by
    rw [pappend, plookup, plookup, plookup_pappend rest k j w]
    by_cases hj : k' = j
    · rw [if_pos hj, if_pos hj, Option.some_or]
    · rw [if_neg hj, if_neg hj]

theorem plookup_pset_self (p : PFields) (k : Nat) (w : PVal) : plookup (pset p k w) k = some w := by
  rw [pset, plookup_pappend, plookup_premove, if_pos rfl, if_pos rfl, Option.none_or]

theorem plookup_pset_ne (p : PFields) (k j : Nat) (w : PVal) (h : j ≠ k) :
    plookup (pset p k w) j = plookup p j := by
  rw [pset, plookup_pappend, plookup_premove, if_neg h.symm, if_neg h.symm, Option.or_none]

theorem decodeField_eq (tbl : Table) (f : Field) : (p : PFields) →
    decodeField tbl f p =
      if f.bwd = .never then .none
      else match plookup p f.source with
        | some v => decodeVal tbl f v
        | none =>
          if f.kind = .list then .list []
          else if f.bwd = .always then defaultOf f.kind else .none
  | .nil => by rw [decodeField, plookup]
  | .cons k v rest => by
    rw [decodeField, plookup]
    by_cases hn : f.bwd = .never
    · rw [if_pos hn, if_pos hn]
    · rw [if_neg hn, if_neg hn]
      by_cases h : k = f.source
      · rw [if_pos h, if_pos h]
      · rw [if_neg h, if_neg h, decodeField_eq tbl f rest, if_neg hn]

theorem decodeField_of_some {tbl : Table} {f : Field} {p : PFields} {v : PVal} (hn : f.bwd ≠ .never)
    (h : plookup p f.source = some v) : decodeField tbl f p = decodeVal tbl f v := by
  rw [decodeField_eq, if_neg hn, h]

theorem decodeField_of_none {tbl : Table} {f : Field} {p : PFields} (hn : f.bwd ≠ .never)
    (h : plookup p f.source = none) :
    decodeField tbl f p =
      if f.kind = .list then .list [] else if f.bwd = .always then defaultOf f.kind else .none := by
  rw [decodeField_eq, if_neg hn, h]

/-- what `fieldGood` gives, as propositions (`ts`: the field is written to and read from the same proto number) -/
structure FieldOK (f : Field) : Prop where
  raises : f.raises = false
  ts : f.target = f.source
  rules : (f.fwd = .always ∧ f.bwd = .always) ∨ (f.fwd = .notNone ∧ f.bwd = .hasField)

theorem fieldOK_of_good {f : Field} (h : fieldGood f = true) : FieldOK f := by
  simp [fieldGood] at h
  obtain ⟨⟨⟨hraises, hts⟩, _⟩, hrules⟩ := h
  exact ⟨hraises, hts, hrules⟩

theorem FieldOK.bwd_ne_never {f : Field} (h : FieldOK f) : f.bwd ≠ .never := by
  rcases h.rules with ⟨_, h⟩ | ⟨_, h⟩ <;> simp [h]

theorem FieldOK.bwd_ne_truthy {f : Field} (h : FieldOK f) : f.bwd ≠ .truthy := by
  rcases h.rules with ⟨_, h⟩ | ⟨_, h⟩ <;> simp [h]

theorem FieldOK.fwd_ne_never {f : Field} (h : FieldOK f) : f.fwd ≠ .never := by
  rcases h.rules with ⟨h, _⟩ | ⟨h, _⟩ <;> simp [h]

theorem FieldOK.fwd_ne_truthy {f : Field} (h : FieldOK f) : f.fwd ≠ .truthy := by
  rcases h.rules with ⟨h, _⟩ | ⟨h, _⟩ <;> simp [h]

theorem FieldOK.bwd_always {f : Field} (h : FieldOK f) : f.bwd = .always ↔ f.fwd = .always := by
  rcases h.rules with ⟨h1, h2⟩ | ⟨h1, h2⟩ <;> simp [h1, h2]

structure SchOK (sch : Schema) : Prop where
  fields : ∀ f ∈ sch, FieldOK f
  nodup : (sch.map (·.target)).Nodup

theorem schOK_of_good {n : Nat} {sch : Schema} (h : schemaGood n sch = true) : SchOK sch := by
  simp only [schemaGood, Bool.and_eq_true, List.all_eq_true, decide_eq_true_eq] at h
  exact ⟨fun f hf => fieldOK_of_good (h.1 f hf).1, h.2⟩

theorem tableGood_sch {tbl : Table} {bad : List Nat} (hg : tableGood tbl bad = true) {sid : Nat}
    (hb : bad.contains sid = false) (hlt : sid < tbl.length) : SchOK (tbl.getD sid []) := by
  simp only [tableGood, List.all_eq_true, List.mem_range, Bool.or_eq_true] at hg
  rcases hg sid hlt with h | h
  · rw [hb] at h; cases h
  · exact schOK_of_good h

theorem SchOK.tail {f : Field} {fs : Schema} (h : SchOK (f :: fs)) : SchOK fs :=
  ⟨fun g hg => h.fields g (List.mem_cons_of_mem _ hg), (List.nodup_cons.mp h.nodup).2⟩

theorem SchOK.head_notin {f : Field} {fs : Schema} (h : SchOK (f :: fs)) : ∀ g ∈ fs, g.target ≠ f.target := by
  intro g hg e
  have := (List.nodup_cons.mp h.nodup).1
  exact this (List.mem_map.mpr ⟨g, hg, e⟩)

theorem SchOK.find_source {sch : Schema} (h : SchOK sch) {f : Field} (hf : f ∈ sch) :
    sch.find? (fun g => g.source == f.source) = some f := by
  induction sch with
  | nil => cases hf
  | cons a as ih =>
    rw [List.find?_cons]
    rcases List.mem_cons.mp hf with rfl | hf'
    · rw [beq_self_eq_true]
    · have hne : (a.source == f.source) = false := beq_false_of_ne fun e =>
        h.head_notin f hf' (by rw [(h.fields f hf).ts, (h.fields a (List.mem_cons_self ..)).ts, e])
      rw [hne]
      exact ih h.tail hf'

/- `tableGood` walks `List.range` with `getD` and decides `Nodup` through its `Decidable` instance; both are slow to
   evaluate.  `tableCheckFrom _ _ 0` is the same test as one pass over the table with a running index and a Boolean
   search for a repeated number (`tableGood_of_check`). -/
def nodupB : List Nat → Bool
  | [] => true
  | a :: l => !l.contains a && nodupB l

theorem nodup_of_nodupB : ∀ l : List Nat, nodupB l = true → l.Nodup
  | [], _ => List.nodup_nil
  | a :: l, h => by
    rw [nodupB, Bool.and_eq_true, Bool.not_eq_true'] at h
    exact List.nodup_cons.mpr ⟨fun hm => Bool.false_ne_true (h.1.symm.trans (List.contains_iff_mem.mpr hm)),
      nodup_of_nodupB l h.2⟩

def schemaCheck (n : Nat) (sch : Schema) : Bool :=
  sch.all (fun f => fieldGood f && kindOK n f) && nodupB (sch.map (·.target))

theorem schemaGood_of_check {n : Nat} {sch : Schema} (h : schemaCheck n sch = true) : schemaGood n sch = true := by
  rw [schemaCheck, Bool.and_eq_true] at h
  rw [schemaGood, Bool.and_eq_true, decide_eq_true_eq]
  exact ⟨h.1, nodup_of_nodupB _ h.2⟩

def tableCheckFrom (n : Nat) (bad : List Nat) : Nat → Table → Bool
  | _, [] => true
  | i, s :: ss => (bad.contains i || schemaCheck n s) && tableCheckFrom n bad (i + 1) ss

theorem tableCheckFrom_getD {n : Nat} {bad : List Nat} (ss : Table) (i : Nat) (h : tableCheckFrom n bad i ss = true) :
    ∀ j, j < ss.length → (bad.contains (i + j) || schemaGood n (ss.getD j [])) = true := by
  induction ss generalizing i with
  | nil => exact fun _ hj => absurd hj (Nat.not_lt_zero _)
  | cons s ss ih =>
    rw [tableCheckFrom, Bool.and_eq_true, Bool.or_eq_true] at h
    intro j hj
    cases j with
    | zero => exact Bool.or_eq_true _ _ |>.mpr (h.1.imp id schemaGood_of_check)
    | succ j =>
      have := ih (i + 1) h.2 j (Nat.lt_of_succ_lt_succ hj)
      rwa [Nat.add_right_comm, Nat.add_assoc] at this

theorem tableGood_of_check {tbl : Table} {bad : List Nat} (h : tableCheckFrom tbl.length bad 0 tbl = true) :
    tableGood tbl bad = true := by
  rw [tableGood, List.all_eq_true]
  intro sid hsid
  have := tableCheckFrom_getD tbl 0 h sid (List.mem_range.mp hsid)
  rwa [Nat.zero_add] at this

end Yow.Payload
