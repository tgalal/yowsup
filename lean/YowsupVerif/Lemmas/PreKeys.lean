/-
  Lemmas about Model/PreKeys.lean (one-time prekeys between generation, upload and use), for Props/C14.lean.  One invariant `Inv` holds
  over every history the server and the peers can produce (`inv_step`, one lemma per event).  What keeps an id from being handed out
  twice: `level_prekeys` numbers new keys above `loadMaxPreKeyId` (`maxIdAll`), which bounds every id of the table, consumed ones
  (tombstones) included.
-/
import YowsupVerif.Model.PreKeys
namespace Yow.PreKeys

theorem foldl_max_bound {α : Type} (f : α → Nat) (l : List α) (m : Nat) :
    m ≤ l.foldl (fun m a => max m (f a)) m ∧ ∀ a ∈ l, f a ≤ l.foldl (fun m a => max m (f a)) m := by
  induction l generalizing m with
  | nil => exact ⟨Nat.le_refl _, nofun⟩
  | cons b t ih =>
    obtain ⟨h1, h2⟩ := ih (max m (f b))
    refine ⟨Nat.le_trans (Nat.le_max_left ..) h1, fun a ha => ?_⟩
    rcases List.mem_cons.1 ha with rfl | ha
    · exact Nat.le_trans (Nat.le_max_right ..) h1
    · exact h2 a ha

theorem row_le_maxIdAll {db : List Row} (tomb : List Nat) {r : Row} (h : r ∈ db) : r.id ≤ maxIdAll db tomb :=
  Nat.le_trans ((foldl_max_bound Row.id db 0).2 r h) (Nat.le_max_left ..)

theorem tomb_le_maxIdAll (db : List Row) {tomb : List Nat} {n : Nat} (h : n ∈ tomb) : n ≤ maxIdAll db tomb :=
  Nat.le_trans ((foldl_max_bound id tomb 0).2 n h) (Nat.le_max_right ..)

def mkRow (kv : Nat × Nat) : Row := { id := kv.1, key := kv.2, sent := false }

theorem genKeys_nodup (start key count : Nat) : ((genKeys start key count).map Prod.fst).Nodup := by
  simp only [genKeys, List.map_map]
  refine List.pairwise_map.2 ?_
  exact List.Pairwise.imp (by intro a b hab; simp; omega) (List.nodup_range (n := count))

theorem level_spec (p : Params) (s : St) (f : Bool) : ∃ ks n,
    levelPrekeys p s f = ({ s with db := s.db ++ ks.map mkRow, nextKey := n }, ks) ∧
    (∀ kv ∈ ks, maxIdAll s.db s.tomb < kv.1) ∧ (ks.map Prod.fst).Nodup := by
  unfold levelPrekeys
  split
  · refine ⟨_, _, rfl, fun kv hkv => ?_, genKeys_nodup ..⟩
    obtain ⟨i, _, rfl⟩ := List.mem_map.1 hkv
    exact Nat.lt_add_right i (Nat.lt_succ_self _)
  · exact ⟨[], s.nextKey, by rw [List.map_nil, List.append_nil], nofun, List.nodup_nil⟩

theorem row_unique {db : List Row} (h : (db.map Row.id).Nodup) {r r' : Row} (hr : r ∈ db) (hr' : r' ∈ db)
    (e : r.id = r'.id) : r = r' := by
  induction db with
  | nil => cases hr
  | cons a t ih =>
    obtain ⟨hna, hnt⟩ := List.nodup_cons.1 h
    have hna : ∀ x ∈ t, x.id ≠ a.id := fun x hx ex => hna (ex ▸ List.mem_map_of_mem hx)
    rcases List.mem_cons.1 hr with rfl | hq <;> rcases List.mem_cons.1 hr' with rfl | hq'
    · rfl
    · exact absurd e.symm (hna _ hq')
    · exact absurd e (hna _ hq)
    · exact ih hnt hq hq'

theorem pair_unique {db : List Row} (h : (db.map Row.id).Nodup) {a b : Nat × Nat} (ha : ∃ r ∈ db, r.id = a.1 ∧ r.key = a.2)
    (hb : ∃ r ∈ db, r.id = b.1 ∧ r.key = b.2) (e : a.1 = b.1) : a = b := by
  obtain ⟨ra, hra, a1, a2⟩ := ha
  obtain ⟨rb, hrb, b1, b2⟩ := hb
  cases row_unique h hra hrb (a1.trans (e.trans b1.symm))
  exact Prod.ext e (a2.symm.trans b2)

theorem mem_unsentOf {db : List Row} {kv : Nat × Nat} :
    kv ∈ unsentOf db ↔ ∃ r ∈ db, r.sent = false ∧ (r.id, r.key) = kv := by
  simp [unsentOf, and_assoc]

theorem dedup_sub : ∀ (l : List (Nat × Nat)) (kv : Nat × Nat), kv ∈ dedupIds l → kv ∈ l := by
  intro l
  induction l with
  | nil => exact fun _ h => h
  | cons a t ih =>
    intro kv hkv
    simp only [dedupIds, List.mem_cons, List.mem_filter] at hkv
    exact List.mem_cons.2 (hkv.imp_right fun h => ih _ h.1)

theorem dedup_mem (l : List (Nat × Nat)) (hl : ∀ a ∈ l, ∀ b ∈ l, a.1 = b.1 → a = b) :
    ∀ kv ∈ l, kv ∈ dedupIds l := by
  induction l with
  | nil => exact fun _ h => h
  | cons a t ih =>
    intro kv hkv
    simp only [dedupIds, List.mem_cons, List.mem_filter]
    by_cases e : kv.1 = a.1
    · exact .inl (hl kv hkv a (List.mem_cons_self ..) e)
    · rcases List.mem_cons.1 hkv with rfl | hkt
      · exact absurd rfl e
      · exact .inr ⟨ih (fun x hx y hy => hl x (List.mem_cons_of_mem _ hx) y (List.mem_cons_of_mem _ hy)) kv hkt,
          by simpa using e⟩

theorem mark_id (ids : List Nat) (r : Row) : (if ids.contains r.id then { r with sent := true } else r).id = r.id := by
  split <;> rfl

theorem mark_key (ids : List Nat) (r : Row) : (if ids.contains r.id then { r with sent := true } else r).key = r.key := by
  split <;> rfl

theorem map_mark_ids (ids : List Nat) (db : List Row) :
    (db.map (fun r => if ids.contains r.id then { r with sent := true } else r)).map Row.id = db.map Row.id := by
  rw [List.map_map]
  exact List.map_congr_left fun r _ => mark_id ids r

structure Inv (s : St) : Prop where
  nodup : (s.db.map Row.id).Nodup
  unsent_pending : ∀ kv ∈ s.unsent, ∃ r ∈ s.db, r.id = kv.1 ∧ r.key = kv.2 ∧ r.sent = false
  authed_flushed : s.authedNow = true → s.unsent = []
  offered_kept : ∀ kv ∈ s.offered, kv ∈ s.consumed ∨ ∃ r ∈ s.db, r.id = kv.1 ∧ r.key = kv.2
  inflight_offered : ∀ u ∈ s.inflight, ∀ kv ∈ u.keys, kv ∈ s.offered
  passive : s.connectedNow = true → s.unsent ≠ [] → s.passiveProp = true
  authed_connected : s.authedNow = true → s.connectedNow = true
  live_not_tomb : ∀ r ∈ s.db, r.id ∉ s.tomb
  consumed_tomb : ∀ kv ∈ s.consumed, kv.1 ∈ s.tomb
  consumed_unique : ∀ a ∈ s.consumed, ∀ b ∈ s.consumed, a.1 = b.1 → a = b
  /-- the uploaded flag is exact: a row is marked sent iff the server confirmed an upload containing exactly that key -/
  sent_iff : ∀ r ∈ s.db, r.sent = true ↔ (r.id, r.key) ∈ s.confirmed
  confirmed_offered : ∀ kv ∈ s.confirmed, kv ∈ s.offered

theorem of_false_eq_true {p : Prop} (h : false = true) : p := (Bool.false_ne_true h).elim

theorem inv_init : Inv {} :=
  ⟨List.nodup_nil, List.forall_mem_nil _, fun _ => rfl, List.forall_mem_nil _, List.forall_mem_nil _, of_false_eq_true,
    of_false_eq_true, List.forall_mem_nil _, List.forall_mem_nil _, List.forall_mem_nil _, List.forall_mem_nil _,
    List.forall_mem_nil _⟩

theorem Inv.unsent_row {s : St} (h : Inv s) {kv : Nat × Nat} (hkv : kv ∈ s.unsent) : ∃ r ∈ s.db, r.id = kv.1 ∧ r.key = kv.2 :=
  let ⟨r, hr, a, b, _⟩ := h.unsent_pending kv hkv
  ⟨r, hr, a, b⟩

theorem Inv.offered_le {s : St} (h : Inv s) {kv : Nat × Nat} (hkv : kv ∈ s.offered) : kv.1 ≤ maxIdAll s.db s.tomb := by
  rcases h.offered_kept kv hkv with hc | ⟨r, hr, a, _⟩
  · exact tomb_le_maxIdAll _ (h.consumed_tomb kv hc)
  · exact a ▸ row_le_maxIdAll _ hr

theorem Inv.offered_unique {s : St} (h : Inv s) : ∀ a ∈ s.offered, ∀ b ∈ s.offered, a.1 = b.1 → a = b := by
  intro a ha b hb e
  -- a consumed id is a tombstone, and no live row has a tombstone's id
  have clash : ∀ x ∈ s.consumed, ∀ y : Nat × Nat, (∃ r ∈ s.db, r.id = y.1 ∧ r.key = y.2) → x.1 ≠ y.1 :=
    fun x hx y ⟨r, hr, y1, _⟩ exy => h.live_not_tomb r hr (y1 ▸ exy ▸ h.consumed_tomb x hx)
  rcases h.offered_kept a ha with hca | hra <;> rcases h.offered_kept b hb with hcb | hrb
  · exact h.consumed_unique a hca b hcb e
  · exact absurd e (clash a hca b hrb)
  · exact absurd e.symm (clash b hcb a hra)
  · exact pair_unique h.nodup hra hrb e

theorem inv_level (p : Params) (s : St) (f : Bool) (h : Inv s) : Inv (levelPrekeys p s f).1 := by
  obtain ⟨ks, n, hl, hfresh, hnd⟩ := level_spec p s f
  rw [hl]
  -- a new row's id is above every id of the table, so it is no live row's, no tombstone's and no offered key's
  have new : ∀ r ∈ ks.map mkRow, maxIdAll s.db s.tomb < r.id := fun r hr => by
    obtain ⟨kv, hkv, rfl⟩ := List.mem_map.1 hr
    exact hfresh kv hkv
  exact { h with
    nodup := by
      rw [List.map_append, List.map_map]
      refine List.nodup_append.2 ⟨h.nodup, hnd, fun a ha b hb e => ?_⟩
      obtain ⟨r, hr, rfl⟩ := List.mem_map.1 ha
      obtain ⟨kv, hkv, rfl⟩ := List.mem_map.1 hb
      exact Nat.lt_irrefl _ (Nat.lt_of_lt_of_le (e ▸ hfresh kv hkv) (row_le_maxIdAll s.tomb hr))
    unsent_pending := fun kv hkv =>
      let ⟨r, hr, x⟩ := h.unsent_pending kv hkv
      ⟨r, List.mem_append_left _ hr, x⟩
    offered_kept := fun kv hkv => (h.offered_kept kv hkv).imp_right fun ⟨r, hr, x⟩ => ⟨r, List.mem_append_left _ hr, x⟩
    live_not_tomb := fun r hr hm => (List.mem_append.1 hr).elim (fun hr => h.live_not_tomb r hr hm) fun hr =>
      Nat.lt_irrefl _ (Nat.lt_of_lt_of_le (new r hr) (tomb_le_maxIdAll s.db hm))
    sent_iff := fun r hr => (List.mem_append.1 hr).elim (h.sent_iff r) fun hr => by
      have hlt := new r hr
      obtain ⟨kv, _, rfl⟩ := List.mem_map.1 hr
      exact ⟨nofun, fun hc => absurd (h.offered_le (h.confirmed_offered _ hc)) (Nat.not_le.2 hlt)⟩ }

theorem level_rows (p : Params) (s : St) (f : Bool) :
    ∀ kv ∈ (levelPrekeys p s f).2, ∃ r ∈ (levelPrekeys p s f).1.db, r.id = kv.1 ∧ r.key = kv.2 := by
  obtain ⟨ks, n, hl, _⟩ := level_spec p s f
  rw [hl]
  exact fun kv hkv => ⟨mkRow kv, List.mem_append_right _ (List.mem_map_of_mem hkv), rfl, rfl⟩

theorem inv_flush {s : St} (h : Inv s) {keys : List (Nat × Nat)} (hk : ∀ kv ∈ keys, ∃ r ∈ s.db, r.id = kv.1 ∧ r.key = kv.2)
    (reboot : Bool) : Inv (flushKeys s keys reboot) :=
  { h with
    offered_kept := fun kv hkv => (List.mem_append.1 hkv).elim (h.offered_kept kv) fun hkv => .inr (hk kv hkv)
    inflight_offered := fun u hu kv hkv => (List.mem_append.1 hu).elim
      (fun hu => List.mem_append_left _ (h.inflight_offered u hu kv hkv))
      fun hu => by cases List.mem_singleton.1 hu; exact List.mem_append_right _ hkv
    confirmed_offered := fun kv hkv => List.mem_append_left _ (h.confirmed_offered kv hkv) }

theorem inv_connect (p : Params) (s : St) (h : Inv s) : Inv (step p s .connect).1 := by
  have h1 := inv_level p s false h
  simp only [step]
  exact { h1 with
    unsent_pending := fun kv hkv => (List.mem_append.1 hkv).elim (h1.unsent_pending kv) fun hk =>
      let ⟨r, hr, hs, e⟩ := mem_unsentOf.1 hk
      ⟨r, hr, e ▸ rfl, e ▸ rfl, hs⟩
    authed_flushed := of_false_eq_true
    inflight_offered := List.forall_mem_nil _
    passive := fun _ hne => if_neg fun he => hne (List.isEmpty_iff.1 he)
    authed_connected := of_false_eq_true }

theorem inv_authed (p : Params) (s : St) (h : Inv s) (passive : Bool)
    (ha : Allowed s (.authed passive) = true) : Inv (step p s (.authed passive)).1 := by
  simp only [Allowed, Bool.and_eq_true, Bool.not_eq_true', beq_iff_eq] at ha
  obtain ⟨⟨hc, _⟩, hp⟩ := ha
  simp only [step]
  split
  · exact { inv_flush h (fun kv hkv => h.unsent_row (dedup_sub _ _ hkv)) true with
      unsent_pending := List.forall_mem_nil _
      authed_flushed := fun _ => rfl
      passive := fun _ hne => absurd rfl hne
      authed_connected := fun _ => hc }
  · next hb =>
    -- nothing was flushed although the login was made with the stack's passive flag: nothing is pending
    have hu : s.unsent = [] := by
      cases hx : s.unsent with
      | nil => rfl
      | cons a t =>
        have := h.passive hc (by rw [hx]; nofun)
        simp [hx, hp, this] at hb
    exact { h with authed_flushed := fun _ => hu, authed_connected := fun _ => hc }

theorem inv_uploaded {s : St} (h : Inv s) (hun : s.unsent = []) {u : Upload} (hu : u ∈ s.inflight) (rid : Nat) (rb : Bool) :
    Inv { s with inflight := s.inflight.filter (fun x => x.rid != rid),
                 db := s.db.map (fun r => if (u.keys.map Prod.fst).contains r.id then { r with sent := true } else r),
                 confirmed := s.confirmed ++ u.keys, rebootFlag := rb } :=
  { h with
    nodup := by rw [map_mark_ids]; exact h.nodup
    unsent_pending := fun kv (hkv : kv ∈ s.unsent) => by rw [hun] at hkv; cases hkv
    offered_kept := fun kv hkv => (h.offered_kept kv hkv).imp_right fun ⟨r, hr, a, b⟩ =>
      ⟨_, List.mem_map_of_mem hr, (mark_id _ r).trans a, (mark_key _ r).trans b⟩
    inflight_offered := fun v hv => h.inflight_offered v (List.mem_filter.1 hv).1
    live_not_tomb := fun r' hr' => by
      obtain ⟨r, hr, rfl⟩ := List.mem_map.1 hr'
      rw [mark_id (u.keys.map Prod.fst) r]
      exact h.live_not_tomb r hr
    sent_iff := fun r' hr' => by
      obtain ⟨r, hr, rfl⟩ := List.mem_map.1 hr'
      by_cases hc : (u.keys.map Prod.fst).contains r.id = true
      · -- the upload offered a key under this row's id: by `offered_unique` it is this row's key
        simp only [hc, if_true, true_iff]
        obtain ⟨kv, hkv, e⟩ := List.mem_map.1 (List.contains_iff_mem.1 hc)
        rcases h.offered_kept kv (h.inflight_offered u hu kv hkv) with hcons | ⟨r2, hr2, a, b⟩
        · exact absurd (e ▸ h.consumed_tomb kv hcons) (h.live_not_tomb r hr)
        · refine List.mem_append_right _ ?_
          rw [← row_unique h.nodup hr2 hr (a.trans e), a, b]
          exact hkv
      · simp only [hc]
        exact (h.sent_iff r hr).trans ⟨List.mem_append_left _, fun x => (List.mem_append.1 x).elim id fun x =>
          absurd (List.contains_iff_mem.2 (List.mem_map_of_mem (f := Prod.fst) x)) hc⟩
    confirmed_offered := fun kv hkv => (List.mem_append.1 hkv).elim (h.confirmed_offered kv) (h.inflight_offered u hu kv) }

theorem inv_uploadResult (p : Params) (s : St) (h : Inv s) (rid : Nat)
    (ha : Allowed s (.uploadResult rid) = true) : Inv (step p s (.uploadResult rid)).1 := by
  have hun := h.authed_flushed (Bool.and_eq_true_iff.1 ha).1
  simp only [step]
  split
  · exact h
  · next u hfind =>
    have hu : u ∈ s.inflight := List.mem_of_find?_eq_some hfind
    split
    · exact inv_uploaded h hun hu rid true
    · exact inv_uploaded h hun hu rid s.rebootFlag

theorem inv_uploadError (p : Params) (s : St) (h : Inv s) (rid : Nat) : Inv (step p s (.uploadError rid)).1 := by
  simp only [step]
  split
  · exact h
  · exact { h with inflight_offered := fun u hu => h.inflight_offered u (List.mem_filter.1 hu).1 }

theorem inv_disconnected (p : Params) (s : St) (h : Inv s) : Inv (step p s .disconnected).1 := by
  simp only [step]
  split <;> exact { h with authed_flushed := of_false_eq_true, inflight_offered := List.forall_mem_nil _,
                           passive := of_false_eq_true, authed_connected := of_false_eq_true }

theorem inv_restart (p : Params) (s : St) (h : Inv s) : Inv (step p s .restart).1 :=
  { h with unsent_pending := List.forall_mem_nil _, authed_flushed := of_false_eq_true,
           inflight_offered := List.forall_mem_nil _, passive := of_false_eq_true, authed_connected := of_false_eq_true }

theorem inv_consume (p : Params) (s : St) (h : Inv s) (id : Nat)
    (ha : Allowed s (.consume id) = true) : Inv (step p s (.consume id)).1 := by
  have hun := h.authed_flushed ha
  simp only [step]
  split
  · exact h
  · next r hfind =>
    have hr : r ∈ s.db := List.mem_of_find?_eq_some hfind
    have hid : r.id = id := by simpa using List.find?_some hfind
    -- the consumed id was a live row's, so it is no tombstone yet and no consumed key has it
    have new : ∀ x ∈ s.consumed, x.1 ≠ r.id := fun x hx e => h.live_not_tomb r hr (e ▸ h.consumed_tomb x hx)
    exact { h with
      nodup := (List.filter_sublist.map _).nodup h.nodup
      unsent_pending := fun kv (hkv : kv ∈ s.unsent) => by rw [hun] at hkv; cases hkv
      offered_kept := fun kv hkv => (h.offered_kept kv hkv).elim (fun hc => .inl (List.mem_append_left _ hc))
        fun ⟨r', hr', a, b⟩ => by
          by_cases e : r'.id = id
          · cases row_unique h.nodup hr' hr (e.trans hid.symm)
            exact .inl (List.mem_append_right _ (List.mem_singleton.2 (Prod.ext a.symm b.symm)))
          · exact .inr ⟨r', List.mem_filter.2 ⟨hr', by simpa using e⟩, a, b⟩
      live_not_tomb := fun r' hr' hm => by
        obtain ⟨hm1, hm2⟩ := List.mem_filter.1 hr'
        rcases List.mem_append.1 hm with hx | hx
        · exact h.live_not_tomb r' hm1 hx
        · simp [List.mem_singleton.1 hx] at hm2
      consumed_tomb := fun kv hkv => (List.mem_append.1 hkv).elim (fun hx => List.mem_append_left _ (h.consumed_tomb kv hx))
        fun hx => by cases List.mem_singleton.1 hx; exact List.mem_append_right _ (List.mem_singleton.2 hid)
      consumed_unique := fun a ha' b hb e => by
        rcases List.mem_append.1 ha' with hx | hx <;> rcases List.mem_append.1 hb with hy | hy
        · exact h.consumed_unique a hx b hy e
        · cases List.mem_singleton.1 hy; exact absurd e (new a hx)
        · cases List.mem_singleton.1 hx; exact absurd e.symm (new b hy)
        · rw [List.mem_singleton.1 hx, List.mem_singleton.1 hy]
      sent_iff := fun r' hr' => h.sent_iff r' (List.mem_filter.1 hr').1 }

theorem inv_step (p : Params) (s : St) (h : Inv s) (e : Ev) (ha : Allowed s e = true) : Inv (step p s e).1 := by
  cases e with
  | connect => exact inv_connect p s h
  | authed passive => exact inv_authed p s h passive ha
  | serverAsksKeys => exact inv_flush (inv_level p s true h) (level_rows p s true) false
  | uploadResult rid => exact inv_uploadResult p s h rid ha
  | uploadError rid => exact inv_uploadError p s h rid
  | disconnected => exact inv_disconnected p s h
  | restart => exact inv_restart p s h
  | consume id => exact inv_consume p s h id ha

theorem inv_run (p : Params) (s : St) (h : Inv s) (es : List Ev) (ha : AllowedRun p s es = true) :
    Inv (run p s es).1 := by
  induction es generalizing s with
  | nil => exact h
  | cons e es ih =>
    obtain ⟨ha1, ha2⟩ := Bool.and_eq_true_iff.1 ha
    exact ih _ (inv_step p s h e ha1) ha2

theorem inv_reachable (p : Params) (es : List Ev) (ha : AllowedRun p {} es = true) : Inv (run p {} es).1 :=
  inv_run p {} inv_init es ha

theorem authed_uploads {p : Params} {s : St} (h : Inv s) (hc : s.connectedNow = true) (rid : Nat) (keys : List (Nat × Nat)) :
    Out.upload rid keys ∈ (step p s (.authed s.passiveProp)).2 ↔
      s.unsent ≠ [] ∧ rid = s.nextRid ∧ keys = dedupIds s.unsent := by
  cases hx : s.unsent with
  | nil => simp [step, hx]
  | cons a t =>
    have := h.passive hc (by rw [hx]; nofun)
    simp [step, hx, this]

theorem login_offers_pending (p : Params) (s : St) (h : Inv s) :
    let s1 := (step p s .connect).1
    let r := step p s1 (.authed s1.passiveProp)
    (∀ row ∈ s1.db, row.sent = false → ∃ rid keys, Out.upload rid keys ∈ r.2 ∧ (row.id, row.key) ∈ keys) ∧
    (∀ rid keys, Out.upload rid keys ∈ r.2 → ∀ kv ∈ keys, ∃ row ∈ s1.db, row.id = kv.1 ∧ row.key = kv.2 ∧ row.sent = false) := by
  intro s1 r
  have hI : Inv s1 := inv_connect p s h
  have hup := authed_uploads (p := p) hI rfl
  constructor
  · intro row hrow hs
    -- connecting loads every pending row into the unsent list
    have hun : (row.id, row.key) ∈ s1.unsent := List.mem_append_right _ (mem_unsentOf.2 ⟨row, hrow, hs, rfl⟩)
    refine ⟨_, _, (hup _ _).2 ⟨List.ne_nil_of_mem hun, rfl, rfl⟩, dedup_mem _ ?_ _ hun⟩
    exact fun a ha b hb e => pair_unique hI.nodup (hI.unsent_row ha) (hI.unsent_row hb) e
  · intro rid keys hmem kv hkv
    obtain ⟨_, _, rfl⟩ := (hup _ _).1 hmem
    exact hI.unsent_pending kv (dedup_sub _ _ hkv)

theorem consume_once (p : Params) (s : St) (id : Nat) :
    (∀ key, Out.decryptOk id key ∈ (step p s (.consume id)).2 →
      (step p (step p s (.consume id)).1 (.consume id)).2 = [.invalidKeyId id]) ∧
    ((∀ r ∈ s.db, r.id ≠ id) → (step p s (.consume id)).2 = [.invalidKeyId id]) := by
  constructor
  · intro key hk
    cases hf : s.db.find? (fun r => r.id == id) with
    | none => simp [step, hf] at hk
    | some r =>
      have : (s.db.filter (fun x => x.id != id)).find? (fun r => r.id == id) = none := by
        simp [List.find?_eq_none]
      simp [step, hf, this]
  · intro hno
    have : s.db.find? (fun r => r.id == id) = none := by
      simpa [List.find?_eq_none] using hno
    simp [step, this]

/-- the bytes of `adjustId` are the big-endian digits of the id: the leading byte is the whole quotient (the id is small enough),
    and `n / 256 * 256 + n % 256 = n` folds the digits up one at a time -/
theorem decode_adjustId (n : Nat) (h : n < 4294967296) : (adjustId n).foldl (fun acc x => acc * 256 + x) 0 = n := by
  have e2 : n / 65536 = n / 256 / 256 := (Nat.div_div_eq_div_mul n 256 256).symm
  have e3 : n / 16777216 = n / 256 / 256 / 256 := by rw [Nat.div_div_eq_div_mul, Nat.div_div_eq_div_mul]
  unfold adjustId
  split
  · next h24 =>
    show ((0 * 256 + n / 65536 % 256) * 256 + n / 256 % 256) * 256 + n % 256 = n
    rw [Nat.mod_eq_of_lt (Nat.div_lt_of_lt_mul (show n < 65536 * 256 from h24)), e2, Nat.zero_mul, Nat.zero_add,
      Nat.div_add_mod', Nat.div_add_mod']
  · show (((0 * 256 + n / 16777216 % 256) * 256 + n / 65536 % 256) * 256 + n / 256 % 256) * 256 + n % 256 = n
    rw [Nat.mod_eq_of_lt (Nat.div_lt_of_lt_mul (show n < 16777216 * 256 from h)), e3, e2, Nat.zero_mul, Nat.zero_add,
      Nat.div_add_mod', Nat.div_add_mod', Nat.div_add_mod']

theorem adjustId_injective (a b : Nat) (ha : a < 4294967296) (hb : b < 4294967296) (h : adjustId a = adjustId b) : a = b := by
  rw [← decode_adjustId a ha, h, decode_adjustId b hb]

end Yow.PreKeys
