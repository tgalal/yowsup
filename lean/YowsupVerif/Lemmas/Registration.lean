/-
  Lemmas for the registration request model (Model/Registration.lean): percent-encoding is undone by standard decoding,
  first for one byte, then for byte strings and UTF-8 text (`pctDecode_flatMap`: piece by piece); an encoded value
  contains neither `&` nor `=`, so the parameter string splits back into its entries (`parseParams_urlencodeParams`).
-/
import YowsupVerif.Model.Registration
namespace Yow.Reg

theorem hexLower_spec : ∀ n, n < 16 → hexVal (hexLower n) = some n ∧ isLiteral (hexLower n) = true := by
  decide +kernel

/-- used with `c` = `%` (37), `&` (38), `=` (61), none of which is literal -/
theorem ne_of_isLiteral {b c : Nat} (h : isLiteral b = true) (hc : isLiteral c = false) : b ≠ c :=
  fun e => by rw [e, hc] at h; cases h

theorem pctDecode_cons_ne (c : Nat) (hc : c ≠ 37) (rest : List Nat) :
    pctDecode (c :: rest) = c :: pctDecode rest := by
  rw [pctDecode]
  intro a b r h
  exact absurd h hc

theorem nibbles (b : Nat) (hb : b < 256) : b / 16 % 16 * 16 + b % 16 = b := by
  rw [Nat.mod_eq_of_lt (Nat.div_lt_of_lt_mul hb), Nat.div_add_mod']

theorem pctDecode_encByte (b : Nat) (hb : b < 256) (rest : List Nat) :
    pctDecode (encByte b ++ rest) = b :: pctDecode rest := by
  by_cases h : isLiteral b = true
  · rw [encByte, if_pos h]
    exact pctDecode_cons_ne b (ne_of_isLiteral h rfl) rest
  · rw [encByte, if_neg h]
    simp only [List.cons_append, List.nil_append, pctDecode,
      (hexLower_spec _ (Nat.mod_lt (b / 16) (by decide))).1, (hexLower_spec _ (Nat.mod_lt b (by decide))).1,
      nibbles b hb]

theorem encByte_chars (b : Nat) : ∀ c ∈ encByte b, isLiteral c = true ∨ c = 37 := by
  by_cases h : isLiteral b = true
  · rw [encByte, if_pos h]
    exact List.forall_mem_singleton.mpr (Or.inl h)
  · rw [encByte, if_neg h]
    intro c hc
    simp only [List.mem_cons, List.not_mem_nil, or_false] at hc
    rcases hc with rfl | rfl | rfl
    · exact Or.inr rfl
    · exact Or.inl (hexLower_spec _ (Nat.mod_lt _ (by decide))).2
    · exact Or.inl (hexLower_spec _ (Nat.mod_lt _ (by decide))).2

theorem pctDecode_flatMap {α : Type} (enc : α → List Nat) (dec : α → Bytes) (xs : List α)
    (h : ∀ x ∈ xs, ∀ rest, pctDecode (enc x ++ rest) = dec x ++ pctDecode rest) (rest : List Nat) :
    pctDecode (xs.flatMap enc ++ rest) = xs.flatMap dec ++ pctDecode rest := by
  induction xs with
  | nil => rfl
  | cons x xs ih =>
    rw [List.flatMap_cons, List.flatMap_cons, List.append_assoc, h x (List.mem_cons_self ..),
      ih (fun y hy => h y (List.mem_cons_of_mem _ hy)), List.append_assoc]

theorem pctDecode_append_nil {l : List Nat} {bs : Bytes} (h : pctDecode (l ++ []) = bs ++ pctDecode []) :
    pctDecode l = bs := by
  rwa [List.append_nil, pctDecode, List.append_nil] at h

theorem pctDecode_urlencodeBytes (bs : Bytes) (hb : ∀ b ∈ bs, b < 256) (rest : List Nat) :
    pctDecode (urlencodeBytes bs ++ rest) = bs ++ pctDecode rest := by
  have := pctDecode_flatMap encByte (fun b => [b]) bs (fun b h rest => pctDecode_encByte b (hb b h) rest) rest
  rwa [List.flatMap_singleton'] at this

theorem urlencodeBytes_chars (bs : Bytes) : ∀ c ∈ urlencodeBytes bs, isLiteral c = true ∨ c = 37 := by
  intro c hc
  obtain ⟨b, _, hcb⟩ := List.mem_flatMap.mp hc
  exact encByte_chars b c hcb

private theorem utf8_cont (x : Nat) : 0x80 + x % 64 < 256 :=
  Nat.lt_of_lt_of_le (Nat.add_lt_add_left (Nat.mod_lt x (by decide)) _) (by decide)

private theorem utf8_lead {k d m x : Nat} (h : x < d * m) (hk : k + m ≤ 256) : k + x / d < 256 :=
  Nat.lt_of_lt_of_le (Nat.add_lt_add_left (Nat.div_lt_of_lt_mul h) _) hk

theorem utf8_bytes (c : Nat) (hc : c < 0x110000) : ∀ b ∈ utf8 c, b < 256 := by
  unfold utf8
  by_cases h1 : c < 0x80
  · rw [if_pos h1]
    exact List.forall_mem_singleton.mpr (Nat.lt_trans h1 (by decide))
  rw [if_neg h1]
  by_cases h2 : c < 0x800
  · rw [if_pos h2]
    simp only [List.forall_mem_cons]
    exact ⟨utf8_lead (m := 32) h2 (by decide), utf8_cont _, nofun⟩
  rw [if_neg h2]
  by_cases h3 : c < 0x10000
  · rw [if_pos h3]
    simp only [List.forall_mem_cons]
    exact ⟨utf8_lead (m := 16) h3 (by decide), utf8_cont _, utf8_cont _, nofun⟩
  rw [if_neg h3]
  simp only [List.forall_mem_cons]
  exact ⟨utf8_lead (m := 16) (Nat.lt_trans hc (by decide)) (by decide), utf8_cont _, utf8_cont _,
    utf8_cont _, nofun⟩

theorem splitFirst_append_left (c : Nat) (l r : List Nat) (h : ∀ x ∈ l, x ≠ c) :
    splitFirst c (l ++ r) = (l ++ (splitFirst c r).1, (splitFirst c r).2) := by
  induction l with
  | nil => rfl
  | cons x xs ih =>
    rw [List.cons_append, splitFirst, if_neg (h x (List.mem_cons_self ..)),
      ih (fun y hy => h y (List.mem_cons_of_mem _ hy))]
    rfl

theorem splitFirst_append (c : Nat) (l r : List Nat) (h : ∀ x ∈ l, x ≠ c) :
    splitFirst c (l ++ c :: r) = (l, some r) := by
  rw [splitFirst_append_left c l _ h, splitFirst, if_pos rfl, List.append_nil]

theorem splitFirst_none (c : Nat) (l : List Nat) (h : ∀ x ∈ l, x ≠ c) :
    splitFirst c l = (l, none) := by
  have := splitFirst_append_left c l [] h
  rwa [List.append_nil, splitFirst, List.append_nil] at this

theorem item_no_amp (k : List Nat) (v : Bytes) (hk : ∀ c ∈ k, c ≠ 38 ∧ c ≠ 61) :
    ∀ x ∈ k ++ 61 :: urlencodeBytes v, x ≠ 38 := by
  intro x hx
  rw [List.mem_append, List.mem_cons] at hx
  rcases hx with h | rfl | h
  · exact (hk x h).1
  · decide
  · rcases urlencodeBytes_chars v x h with h | rfl
    · exact ne_of_isLiteral h rfl
    · decide

theorem parse_entry (k : List Nat) (v : Bytes) (hk : ∀ c ∈ k, c ≠ 38 ∧ c ≠ 61) (hv : ∀ b ∈ v, b < 256) :
    ((splitFirst 61 (k ++ 61 :: urlencodeBytes v)).1,
      pctDecode ((splitFirst 61 (k ++ 61 :: urlencodeBytes v)).2.getD [])) = (k, v) := by
  rw [splitFirst_append 61 k _ (fun x hx => (hk x hx).2), Option.getD_some,
    pctDecode_append_nil (pctDecode_urlencodeBytes v hv [])]

theorem urlencodeParams_cons_cons (k : List Nat) (v : Bytes) (p : List Nat × Bytes) (rest : List (List Nat × Bytes)) :
    urlencodeParams ((k, v) :: p :: rest) =
      (k ++ 61 :: urlencodeBytes v) ++ 38 :: urlencodeParams (p :: rest) := by
  rw [urlencodeParams, List.append_assoc, List.cons_append]
  exact List.cons_ne_nil _ _

theorem parseParams_urlencodeParams (ps : List (List Nat × Bytes)) (hne : ps ≠ [])
    (hk : ∀ kv ∈ ps, (∀ c ∈ kv.1, c ≠ 38 ∧ c ≠ 61) ∧ (∀ b ∈ kv.2, b < 256)) (fuel : Nat) (hf : ps.length ≤ fuel) :
    parseParams fuel (urlencodeParams ps) = ps := by
  induction ps generalizing fuel with
  | nil => exact absurd rfl hne
  | cons p rest ih =>
    obtain ⟨k, v⟩ := p
    obtain ⟨hk1, hv1⟩ := hk (k, v) (List.mem_cons_self ..)
    cases fuel with
    | zero => exact absurd hf (Nat.not_succ_le_zero _)
    | succ fuel =>
      cases rest with
      | nil =>
        simp only [urlencodeParams, parseParams, splitFirst_none 38 _ (item_no_amp k v hk1),
          parse_entry k v hk1 hv1]
      | cons p2 rest2 =>
        have ih' := ih (List.cons_ne_nil _ _) (fun kv h => hk kv (List.mem_cons_of_mem _ h)) fuel
          (Nat.le_of_succ_le_succ hf)
        simp only [urlencodeParams_cons_cons, parseParams, splitFirst_append 38 _ _ (item_no_amp k v hk1),
          parse_entry k v hk1 hv1, ih']

end Yow.Reg
