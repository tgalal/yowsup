/-
  The segment layer's receive loop (Model/Segments.lean): its unfolding equations, induction along its turns, `peel` as the
  loop without failures, whole frames and proper prefixes of a frame at the head of the buffer, the run over chunks.
-/
import YowsupVerif.Model.Segments
namespace Yow.Segments

theorem rd24_be24 (n : Nat) (h : n < 16777216) :
    rd24 (n / 65536 % 256) (n / 256 % 256) (n % 256) = n := by
  rw [Nat.mod_eq_of_lt (Nat.div_lt_of_lt_mul h : n / 65536 < 256), ← Nat.div_div_eq_div_mul n 256 256]
  unfold rd24; omega

/-! One turn of the loop.  The value of the length header is a variable `n` with `rd24 a b c = n`, and every proof about
the loop works with that variable: with `rd24 a b c` itself inside `List.drop`, the kernel would unfold the arithmetic
whenever it compares two such terms. -/

theorem peelF_short (bad : Bytes → Bool) (buf : Bytes) (h : buf.length ≤ 3) :
    peelF bad buf = ([], buf, false) := by
  apply peelF.eq_2
  intro a b c d rest e
  subst e
  simp at h

theorem peelF_cons4_ok (bad : Bytes → Bool) (a b c d : Nat) (rest : Bytes) {n : Nat} (hn : rd24 a b c = n)
    (h : n ≤ (d :: rest).length) :
    peelF bad (a :: b :: c :: d :: rest)
      = if bad ((d :: rest).take n) then ([(d :: rest).take n], (d :: rest).drop n, true)
        else ((d :: rest).take n :: (peelF bad ((d :: rest).drop n)).1,
              (peelF bad ((d :: rest).drop n)).2.1, (peelF bad ((d :: rest).drop n)).2.2) := by
  subst hn
  rw [peelF.eq_1]; simp only [h, ↓reduceDIte]

theorem peelF_cons4_wait (bad : Bytes → Bool) (a b c d : Nat) (rest : Bytes)
    (h : ¬ rd24 a b c ≤ (d :: rest).length) :
    peelF bad (a :: b :: c :: d :: rest) = ([], a :: b :: c :: d :: rest, false) := by
  rw [peelF.eq_1]; simp only [h, ↓reduceDIte]

theorem peel_short (buf : Bytes) (h : buf.length ≤ 3) : peel buf = ([], buf) := by
  apply peel.eq_2
  intro a b c d rest e
  subst e
  simp at h

theorem peel_cons4_ok (a b c d : Nat) (rest : Bytes) {n : Nat} (hn : rd24 a b c = n) (h : n ≤ (d :: rest).length) :
    peel (a :: b :: c :: d :: rest)
      = ((d :: rest).take n :: (peel ((d :: rest).drop n)).1, (peel ((d :: rest).drop n)).2) := by
  subst hn
  rw [peel.eq_1]; simp only [h, ↓reduceDIte]

theorem peel_cons4_wait (a b c d : Nat) (rest : Bytes) (h : ¬ rd24 a b c ≤ (d :: rest).length) :
    peel (a :: b :: c :: d :: rest) = ([], a :: b :: c :: d :: rest) := by
  rw [peel.eq_1]; simp only [h, ↓reduceDIte]

theorem turns_induct {motive : Bytes → Prop}
    (short : ∀ buf, buf.length ≤ 3 → motive buf)
    (ok : ∀ a b c d rest n, rd24 a b c = n → n ≤ (d :: rest).length →
      motive ((d :: rest).drop n) → motive (a :: b :: c :: d :: rest))
    (wait : ∀ a b c d rest, ¬ rd24 a b c ≤ (d :: rest).length → motive (a :: b :: c :: d :: rest))
    (buf : Bytes) : motive buf := by
  induction hl : buf.length using Nat.strongRecOn generalizing buf with
  | _ l ih =>
    match buf with
    | [] | [_] | [_, _] | [_, _, _] => exact short _ (by simp)
    | a :: b :: c :: d :: rest =>
      by_cases h : rd24 a b c ≤ (d :: rest).length
      · exact ok a b c d rest _ rfl h (ih _ (by subst hl; simp only [List.length_drop, List.length_cons]; omega) _ rfl)
      · exact wait a b c d rest h

theorem peelF_never (buf : Bytes) :
    peelF (fun _ => false) buf = ((peel buf).1, (peel buf).2, false) := by
  induction buf using turns_induct with
  | short buf h => rw [peel_short buf h, peelF_short _ buf h]
  | ok a b c d rest n hn h ih =>
    rw [peel_cons4_ok a b c d rest hn h, peelF_cons4_ok _ a b c d rest hn h, ih]
    rfl
  | wait a b c d rest h => rw [peel_cons4_wait a b c d rest h, peelF_cons4_wait _ a b c d rest h]

theorem peel_append (x y : Bytes) :
    peel (x ++ y) = ((peel x).1 ++ (peel ((peel x).2 ++ y)).1, (peel ((peel x).2 ++ y)).2) := by
  induction x using turns_induct with
  | short buf h => rw [peel_short buf h]; rfl
  | ok a b c d rest n hn h ih =>
    have h' : n ≤ (d :: (rest ++ y)).length := by
      simp only [List.length_cons, List.length_append] at h ⊢; omega
    rw [peel_cons4_ok a b c d rest hn h]
    show peel (a :: b :: c :: d :: (rest ++ y)) = _
    rw [peel_cons4_ok a b c d (rest ++ y) hn h', ← List.cons_append, List.take_append_of_le_length h,
      List.drop_append_of_le_length h, ih]
    rfl
  | wait a b c d rest h => rw [peel_cons4_wait a b c d rest h]; rfl

theorem peel_idem (x : Bytes) : peel (peel x).2 = ([], (peel x).2) := by
  induction x using turns_induct with
  | short buf h => rw [peel_short buf h]; exact peel_short buf h
  | ok a b c d rest n hn h ih => rw [peel_cons4_ok a b c d rest hn h]; exact ih
  | wait a b c d rest h => rw [peel_cons4_wait a b c d rest h]; exact peel_cons4_wait a b c d rest h

def FramesOK (fs : List Bytes) : Prop := ∀ f ∈ fs, 0 < f.length ∧ f.length < 16777216

theorem FramesOK.left {a b : List Bytes} (h : FramesOK (a ++ b)) : FramesOK a :=
  fun g hg => h g (List.mem_append_left b hg)

theorem FramesOK.right {a b : List Bytes} (h : FramesOK (a ++ b)) : FramesOK b :=
  fun g hg => h g (List.mem_append_right a hg)

theorem stream_cons (f : Bytes) (fs : List Bytes) : stream (f :: fs) = frame f ++ stream fs := rfl

theorem peelF_frame (bad : Bytes → Bool) (p rest : Bytes) (h0 : 0 < p.length) (h : p.length < 16777216) :
    peelF bad (frame p ++ rest)
      = if bad p then ([p], rest, true)
        else (p :: (peelF bad rest).1, (peelF bad rest).2.1, (peelF bad rest).2.2) := by
  match p, h0 with
  | d :: t, _ =>
    show peelF bad (_ :: _ :: _ :: d :: (t ++ rest)) = _
    rw [peelF_cons4_ok bad _ _ _ d (t ++ rest) (rd24_be24 _ h) (by simp), ← List.cons_append,
      List.take_left, List.drop_left]

theorem peel_frame (p rest : Bytes) (h0 : 0 < p.length) (h : p.length < 16777216) :
    peel (frame p ++ rest) = (p :: (peel rest).1, (peel rest).2) := by
  have hF := (peelF_never _).symm.trans (peelF_frame (fun _ => false) p rest h0 h)
  rw [peelF_never rest] at hF
  exact Prod.ext (congrArg (·.1) hF) (congrArg (·.2.1) hF)

theorem peelF_proper_prefix (bad : Bytes → Bool) (g tail x : Bytes) (hg : g.length < 16777216)
    (hx : x ≠ []) (h : tail ++ x = frame g) : peelF bad tail = ([], tail, false) := by
  match tail with
  | [] | [_] | [_, _] | [_, _, _] => exact peelF_short _ _ (by simp)
  | a :: b :: c :: d :: rest =>
    apply peelF_cons4_wait
    have hl := congrArg List.length h
    simp only [frame, be24, List.length_append, List.length_cons, List.length_nil] at hl
    simp only [frame, be24, List.cons_append, List.nil_append, List.cons.injEq] at h
    rw [h.1, h.2.1, h.2.2.1, rd24_be24 _ hg]
    have : 0 < x.length := List.length_pos_iff.mpr hx
    simp only [List.length_cons]
    omega

theorem peel_proper_prefix (g tail x : Bytes) (hg : g.length < 16777216)
    (hx : x ≠ []) (h : tail ++ x = frame g) : peel tail = ([], tail) := by
  have hF := (peelF_never tail).symm.trans (peelF_proper_prefix (fun _ => false) g tail x hg hx h)
  exact Prod.ext (congrArg (·.1) hF) (congrArg (·.2.1) hF)

theorem peel_stream (fs : List Bytes) (hfs : FramesOK fs) (tail : Bytes) :
    peel (stream fs ++ tail) = (fs ++ (peel tail).1, (peel tail).2) := by
  induction fs with
  | nil => rfl
  | cons f fs ih =>
    have hf := hfs f (List.mem_cons_self ..)
    rw [stream_cons, List.append_assoc, peel_frame f _ hf.1 hf.2, ih (FramesOK.right (a := [f]) hfs)]
    rfl

theorem run_nil (s : St) : run s [] = (s, []) := rfl

theorem run_cons (s : St) (c : Bytes) (cs : List Bytes) :
    run s (c :: cs) = ((run (recv s c).1 cs).1, (recv s c).2 ++ (run (recv s c).1 cs).2) := by
  have shift : ∀ (cs : List Bytes) (s : St) (acc : List Bytes),
      cs.foldl (fun (a : St × List Bytes) c => ((recv a.1 c).1, a.2 ++ (recv a.1 c).2)) (s, acc)
        = ((run s cs).1, acc ++ (run s cs).2) := by
    intro cs
    induction cs with
    | nil => intro s acc; simp [run]
    | cons c cs ih =>
      intro s acc
      simp only [run, List.foldl_cons, List.nil_append]
      rw [ih, ih _ (recv s c).2, List.append_assoc]
  exact shift cs _ _

theorem recv_enabled (buf c : Bytes) :
    recv { enabled := true, buf := buf } c
      = ({ enabled := true, buf := (peel (buf ++ c)).2 }, (peel (buf ++ c)).1) := rfl

theorem run_enabled (buf : Bytes) (hb : peel buf = ([], buf)) (cs : List Bytes) :
    run { enabled := true, buf := buf } cs
      = ({ enabled := true, buf := (peel (buf ++ cs.flatten)).2 }, (peel (buf ++ cs.flatten)).1) := by
  induction cs generalizing buf with
  | nil => rw [run_nil, List.flatten_nil, List.append_nil, hb]
  | cons c cs ih =>
    rw [run_cons, recv_enabled, ih _ (peel_idem _), List.flatten_cons, ← List.append_assoc, peel_append (buf ++ c)]

end Yow.Segments
