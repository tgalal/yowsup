/-
  The receive loop with upward failures over a stream of whole frames (Model/Segments.lean: peelF, recvF, runF): what one
  call does to a prefix of the stream, the invariant of a run over chunks, and how the buffer drains once the stream is there.
-/
import YowsupVerif.Lemmas.Segments
namespace Yow.Segments

theorem stream_append (a b : List Bytes) : stream (a ++ b) = stream a ++ stream b := by
  simp [stream]

theorem stream_eq_nil {fs : List Bytes} (h : stream fs = []) : fs = [] := by
  cases fs with
  | nil => rfl
  | cons f fs => simp [stream_cons, frame, be24] at h

theorem FramesOK.append {a b : List Bytes} (ha : FramesOK a) (hb : FramesOK b) : FramesOK (a ++ b) :=
  fun g hg => (List.mem_append.mp hg).elim (ha g) (hb g)

theorem peelF_spec (bad : Bytes → Bool) (todo : List Bytes) (hfs : FramesOK todo) (x y : Bytes)
    (h : x ++ y = stream todo) :
    ∃ d t, todo = d ++ t ∧ (peelF bad x).1 = d ∧ (peelF bad x).2.1 ++ y = stream t ∧
      (d.filter bad).length = (if (peelF bad x).2.2 then 1 else 0) ∧
      ((peelF bad x).2.2 = false → y = [] → t = []) := by
  induction todo generalizing x with
  | nil =>
    obtain ⟨rfl, rfl⟩ := List.append_eq_nil_iff.mp h
    refine ⟨[], [], rfl, ?_, ?_, ?_, fun _ _ => rfl⟩ <;> simp [peelF_short, stream]
  | cons f fs ih =>
    have hf := hfs f (List.mem_cons_self ..)
    rw [stream_cons] at h
    -- either the first frame is in `x` as a whole, or `x` is a proper prefix of it
    have hcut : (∃ x', x = frame f ++ x' ∧ x' ++ y = stream fs) ∨
        (∃ z, z ≠ [] ∧ x ++ z = frame f ∧ y = z ++ stream fs) := by
      rcases List.append_eq_append_iff.mp h with ⟨z, h1, h2⟩ | ⟨x', h1, h2⟩
      · by_cases hz : z = []
        · subst hz
          exact .inl ⟨[], by simpa using h1.symm, by simpa using h2⟩
        · exact .inr ⟨z, hz, h1.symm, h2⟩
      · exact .inl ⟨x', h1, h2.symm⟩
    rcases hcut with ⟨x', rfl, hx'⟩ | ⟨z, hz, hxz, rfl⟩
    · rw [peelF_frame bad f x' hf.1 hf.2]
      cases hb : bad f with
      | true => exact ⟨[f], fs, rfl, rfl, hx', by simp [hb], by simp⟩
      | false =>
        obtain ⟨d, t, rfl, p1, p2, p3, p4⟩ := ih (FramesOK.right (a := [f]) hfs) x' hx'
        exact ⟨f :: d, t, rfl, by simp [p1], p2, by simpa [hb] using p3, p4⟩
    · rw [peelF_proper_prefix bad f x z hf.2 hz hxz]
      exact ⟨[], f :: fs, rfl, rfl, by simp [stream_cons, ← hxz], rfl,
        fun _ hy => absurd (List.append_eq_nil_iff.mp hy).1 hz⟩

theorem runF_append (bad : Bytes → Bool) (s : RunF) (as bs : List Bytes) :
    runF bad s (as ++ bs) = runF bad (runF bad s as) bs := by
  induction as generalizing s with
  | nil => rfl
  | cons a as ih => simp only [List.cons_append, runF]; exact ih _

theorem runF_cons (bad : Bytes → Bool) (buf : Bytes) (done : List Bytes) (r : Nat) (c : Bytes) (cs : List Bytes) :
    runF bad { buf := buf, handed := done, raises := r } (c :: cs)
      = runF bad { buf := (peelF bad (buf ++ c)).2.1, handed := done ++ (peelF bad (buf ++ c)).1,
                   raises := r + (if (peelF bad (buf ++ c)).2.2 then 1 else 0) } cs := rfl

/-- The invariant of the run: a split `todo = d ++ t`, `d` handed up, the buffer plus the bytes not yet arrived is the stream
    of `t`, one raise per failing frame handed up; and when the call that saw the end of the stream left frames behind, it
    raised. -/
theorem runF_inv (bad : Bytes → Bool) (cs : List Bytes) (buf : Bytes) (done : List Bytes) (r : Nat)
    (todo : List Bytes) (hfs : FramesOK todo) (tail : Bytes)
    (h : buf ++ (cs.flatten ++ tail) = stream todo) :
    ∃ d t b, todo = d ++ t ∧
      runF bad { buf := buf, handed := done, raises := r } cs
        = { buf := b, handed := done ++ d, raises := r + (d.filter bad).length } ∧
      b ++ tail = stream t ∧ (cs ≠ [] → tail = [] → t ≠ [] → 0 < (d.filter bad).length) := by
  induction cs generalizing buf done r todo with
  | nil => exact ⟨[], todo, buf, rfl, by simp [runF], by simpa using h, fun hc => absurd rfl hc⟩
  | cons c cs ih =>
    obtain ⟨d1, t1, rfl, p1, p2, p3, p4⟩ := peelF_spec bad todo hfs (buf ++ c) (cs.flatten ++ tail)
      (by simpa [List.append_assoc] using h)
    obtain ⟨d2, t2, b, rfl, q1, q2, q3⟩ := ih (peelF bad (buf ++ c)).2.1 (done ++ (peelF bad (buf ++ c)).1)
      (r + (if (peelF bad (buf ++ c)).2.2 then 1 else 0)) t1 hfs.right p2
    refine ⟨d1 ++ d2, t2, b, by simp, ?_, q2, ?_⟩
    · rw [runF_cons, q1, p1, ← p3]; simp [Nat.add_assoc]
    · intro _ ht ht2
      rw [List.filter_append, List.length_append]
      by_cases hcs : cs = []
      · subst hcs
        cases hr : (peelF bad (buf ++ c)).2.2 with
        | true => rw [p3, hr]; simp only [↓reduceIte]; omega
        | false =>
          have : d2 ++ t2 = [] := p4 hr (by simpa using ht)
          exact absurd (List.append_eq_nil_iff.mp this).2 ht2
      · have := q3 hcs ht ht2
        omega

/-- Once the whole stream of `todo` is in the buffer, one failing frame of `todo` is passed per call. -/
theorem runF_drain (bad : Bytes → Bool) (hss : List (List Bytes))
    (hok : ∀ hs ∈ hss, FramesOK hs ∧ ∀ g ∈ hs, bad g = false)
    (done : List Bytes) (r : Nat) (todo : List Bytes) (hfs : FramesOK todo)
    (hn : todo ≠ [] → (todo.filter bad).length < hss.length) :
    runF bad { buf := stream todo, handed := done, raises := r } (hss.map stream)
      = { buf := [], handed := done ++ todo ++ hss.flatten, raises := r + (todo.filter bad).length } := by
  induction hss generalizing done r todo with
  | nil =>
    cases todo with
    | nil => simp [runF, stream]
    | cons f fs => exact absurd (hn (List.cons_ne_nil f fs)) (Nat.not_lt_zero _)
  | cons hs hss ih =>
    obtain ⟨hhs, hgood⟩ := hok hs (List.mem_cons_self ..)
    have hfs' : FramesOK (todo ++ hs) := hfs.append hhs
    obtain ⟨d, t, e, p1, p2, p3, p4⟩ := peelF_spec bad (todo ++ hs) hfs' (stream todo ++ stream hs) []
      (by rw [stream_append, List.append_nil])
    have hcnt : (d.filter bad).length + (t.filter bad).length = (todo.filter bad).length := by
      have := congrArg (fun l => (l.filter bad).length) e
      simpa [List.filter_append, List.filter_eq_nil_iff.mpr (by simpa using hgood)] using this.symm
    have hn' : t ≠ [] → (t.filter bad).length < hss.length := by
      intro ht
      cases hr : (peelF bad (stream todo ++ stream hs)).2.2 with
      | false => exact absurd (p4 hr rfl) ht
      | true =>
        rw [hr] at p3
        simp only [↓reduceIte] at p3
        by_cases h0 : todo = []
        · subst h0
          simp only [List.filter_nil, List.length_nil] at hcnt
          omega
        · have := hn h0
          simp only [List.length_cons] at this
          omega
    rw [List.map_cons, runF_cons, show (peelF bad (stream todo ++ stream hs)).2.1 = stream t by simpa using p2,
      ih (fun x hx => hok x (List.mem_cons_of_mem _ hx)) _ _ t (e ▸ hfs').right hn', p1, ← p3, ← hcnt]
    have e' : d ++ t ++ hss.flatten = todo ++ (hs ++ hss.flatten) := by rw [← e, List.append_assoc todo]
    simp only [List.flatten_cons, List.append_assoc, Nat.add_assoc] at e' ⊢
    rw [e']

theorem runF_all_handed (bad : Bytes → Bool) (fs : List Bytes) (hfs : FramesOK fs) (cs : List Bytes)
    (hcs : cs.flatten = stream fs) (hss : List (List Bytes)) (hok : ∀ hs ∈ hss, FramesOK hs ∧ ∀ g ∈ hs, bad g = false)
    (hn : (fs.filter bad).length ≤ hss.length) :
    runF bad {} (cs ++ hss.map stream)
      = { buf := [], handed := fs ++ hss.flatten, raises := (fs.filter bad).length } := by
  obtain ⟨d, t, b, rfl, hrun, hb, hlast⟩ := runF_inv bad cs [] [] 0 _ hfs [] (by simpa using hcs)
  rw [List.append_nil] at hb
  subst hb
  simp only [List.filter_append, List.length_append] at hn ⊢
  rw [runF_append, show runF bad {} cs = _ from hrun, runF_drain bad hss hok _ _ t hfs.right]
  · simp
  · intro ht
    have hcs' : cs ≠ [] := fun h0 =>
      ht (List.append_eq_nil_iff.mp (stream_eq_nil (by simpa [h0] using hcs.symm))).2
    have := hlast hcs' rfl ht
    omega

/-- With no failing frame `runF` is `run`, the receive path of C05. -/
theorem runF_never (cs : List Bytes) (buf : Bytes) (acc : List Bytes) :
    runF (fun _ => false) { buf := buf, handed := acc, raises := 0 } cs
      = { buf := (run { enabled := true, buf := buf } cs).1.buf,
          handed := acc ++ (run { enabled := true, buf := buf } cs).2, raises := 0 } := by
  induction cs generalizing buf acc with
  | nil => simp [runF, run_nil]
  | cons c cs ih =>
    rw [runF_cons, peelF_never, run_cons, recv_enabled]
    simp only [Bool.false_eq_true, ↓reduceIte, Nat.add_zero]
    rw [ih, List.append_assoc]

end Yow.Segments
