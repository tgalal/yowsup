/-
  The translation of the current source's segment layer (Gen/SegmentsSrc.lean, regenerated by harness/gen/segsrc.py)
  computes the hand-written model (Model/Segments.lean): `peelF` when the layers above may raise, `peel` when they do not.
-/
import YowsupVerif.Gen.SegmentsSrc
import YowsupVerif.Lemmas.Segments
namespace Yow.Segments
open Yow.Gen.SegSrc

theorem beNat4 (a b c : Nat) : Py.beNat [0, a, b, c] = rd24 a b c := by
  simp [Py.beNat, rd24]; omega

theorem loop_turn (bad : Bytes → Bool) (n : Nat) (data : Bytes) (prop : Option Bool) (rs a b c d : Nat) (rest : Bytes)
    (up low : List Bytes) (fo : Bool) {k : Nat} (hk : rd24 a b c = k) :
    receive_loop0 bad (n+1) { data := data, prop_PROP_ENABLED := prop, read_size := rs, self__read_buffer := a :: b :: c :: d :: rest,
                              up := up, low := low, raised := false, brk := false, fuelOut := fo } =
    if k ≤ (d :: rest).length then
      if bad ((d :: rest).take k) then
        { data := (d :: rest).take k, prop_PROP_ENABLED := prop, read_size := k, self__read_buffer := (d :: rest).drop k,
          up := up ++ [(d :: rest).take k], low := low, raised := true, brk := false, fuelOut := fo }
      else
        receive_loop0 bad n { data := (d :: rest).take k, prop_PROP_ENABLED := prop, read_size := k,
                              self__read_buffer := (d :: rest).drop k, up := up ++ [(d :: rest).take k],
                              low := low, raised := false, brk := false, fuelOut := fo }
    else
      { data := data, prop_PROP_ENABLED := prop, read_size := k, self__read_buffer := a :: b :: c :: d :: rest,
        up := up, low := low, raised := false, brk := false, fuelOut := fo } := by
  have hbe : Py.beNat [0, a, b, c] = k := (beNat4 a b c).trans hk
  have e2 : (a :: b :: c :: d :: rest).drop (3 + k) = (d :: rest).drop k := by
    rw [Nat.add_comm]; rfl
  rw [receive_loop0]
  by_cases h : k ≤ (d :: rest).length
  · have h3 : 3 + k ≤ rest.length + 1 + 1 + 1 + 1 := by simp at h; omega
    rw [if_pos h]
    cases hb : bad ((d :: rest).take k) <;> simp [hbe, h3, e2, hb]
  · have h3 : ¬ 3 + k ≤ rest.length + 1 + 1 + 1 + 1 := by simp at h; omega
    rw [if_neg h]
    simp [hbe, h3]

theorem loop_turn_ok (bad : Bytes → Bool) (n : Nat) (data : Bytes) (prop : Option Bool) (rs a b c d : Nat) (rest : Bytes) (up low : List Bytes) (fo : Bool)
    (h : rd24 a b c ≤ (d :: rest).length) (hb : bad ((d :: rest).take (rd24 a b c)) = false) :
    receive_loop0 bad (n+1) { data := data, prop_PROP_ENABLED := prop, read_size := rs, self__read_buffer := a :: b :: c :: d :: rest,
                              up := up, low := low, raised := false, brk := false, fuelOut := fo } =
    receive_loop0 bad n { data := (d :: rest).take (rd24 a b c), prop_PROP_ENABLED := prop, read_size := rd24 a b c,
                          self__read_buffer := (d :: rest).drop (rd24 a b c), up := up ++ [(d :: rest).take (rd24 a b c)],
                          low := low, raised := false, brk := false, fuelOut := fo } := by
  rw [loop_turn _ _ _ _ _ _ _ _ _ _ _ _ _ rfl, if_pos h, hb]; rfl

theorem loop_turn_bad (bad : Bytes → Bool) (n : Nat) (data : Bytes) (prop : Option Bool) (rs a b c d : Nat) (rest : Bytes) (up low : List Bytes) (fo : Bool)
    (h : rd24 a b c ≤ (d :: rest).length) (hb : bad ((d :: rest).take (rd24 a b c)) = true) :
    receive_loop0 bad (n+1) { data := data, prop_PROP_ENABLED := prop, read_size := rs, self__read_buffer := a :: b :: c :: d :: rest,
                              up := up, low := low, raised := false, brk := false, fuelOut := fo } =
    { data := (d :: rest).take (rd24 a b c), prop_PROP_ENABLED := prop, read_size := rd24 a b c,
      self__read_buffer := (d :: rest).drop (rd24 a b c), up := up ++ [(d :: rest).take (rd24 a b c)],
      low := low, raised := true, brk := false, fuelOut := fo } := by
  rw [loop_turn _ _ _ _ _ _ _ _ _ _ _ _ _ rfl, if_pos h, hb]; rfl

theorem loop_short (bad : Bytes → Bool) (n : Nat) (e : Env) (h : e.self__read_buffer.length ≤ 3) : receive_loop0 bad n e = e := by
  cases n <;> rw [receive_loop0, if_neg (by simpa using h)]

/-- what the translated loop leaves, in terms of `peelF` (the locals `data` / `read_size` are not part of the statement) -/
def LoopPost (bad : Bytes → Bool) (e r : Env) : Prop :=
  r.self__read_buffer = (peelF bad e.self__read_buffer).2.1 ∧ r.up = e.up ++ (peelF bad e.self__read_buffer).1 ∧
  r.raised = (peelF bad e.self__read_buffer).2.2 ∧ r.low = e.low ∧
  r.brk = false ∧ r.fuelOut = e.fuelOut ∧ r.prop_PROP_ENABLED = e.prop_PROP_ENABLED

theorem LoopPost.of_peelF {bad : Bytes → Bool} {e r : Env} {p : List Bytes × Bytes × Bool}
    (hp : peelF bad e.self__read_buffer = p)
    (h1 : r.self__read_buffer = p.2.1) (h2 : r.up = e.up ++ p.1) (h3 : r.raised = p.2.2) (h4 : r.low = e.low)
    (h5 : r.brk = false) (h6 : r.fuelOut = e.fuelOut) (h7 : r.prop_PROP_ENABLED = e.prop_PROP_ENABLED) :
    LoopPost bad e r := by
  subst hp; exact ⟨h1, h2, h3, h4, h5, h6, h7⟩

/-- the translated loop is `peelF`, for every fuel above the buffer's length (so the fuel never cuts it off) -/
theorem loop_is_peelF (bad : Bytes → Bool) (fuel : Nat) (e : Env) (hf : e.self__read_buffer.length < fuel)
    (hr : e.raised = false) (hb : e.brk = false) : LoopPost bad e (receive_loop0 bad fuel e) := by
  induction fuel generalizing e with
  | zero => omega
  | succ n ih =>
    by_cases hs : e.self__read_buffer.length ≤ 3
    · rw [loop_short _ _ _ hs]
      exact .of_peelF (peelF_short _ _ hs) rfl (List.append_nil _).symm hr rfl hb rfl rfl
    · obtain ⟨data, prop, rs, buf, up, low, raised, brk, fo⟩ := e
      simp only at hf hr hb hs
      subst hr hb
      match buf, hs with
      | [], hs | [_], hs | [_, _], hs | [_, _, _], hs => exact absurd (by simp) hs
      | a :: b :: c :: d :: rest, _ =>
        -- the header's value as a variable `k` (see Lemmas/Segments.lean); bound by `obtain`, since what `generalize`
        -- introduces is substituted back in the proof term
        obtain ⟨k, hk⟩ : ∃ k, rd24 a b c = k := ⟨_, rfl⟩
        rw [loop_turn bad n data prop rs a b c d rest up low fo hk]
        by_cases h : k ≤ (d :: rest).length
        · rw [if_pos h]
          cases hbad : bad ((d :: rest).take k)
          · rw [if_neg Bool.false_ne_true]
            obtain ⟨h1, h2, h3, h4, h5, h6, h7⟩ :=
              ih { data := (d :: rest).take k, prop_PROP_ENABLED := prop, read_size := k,
                   self__read_buffer := (d :: rest).drop k, up := up ++ [(d :: rest).take k],
                   low := low, raised := false, brk := false, fuelOut := fo }
                 (by simp [List.length_drop] at hf ⊢; omega) rfl rfl
            refine .of_peelF ((peelF_cons4_ok bad a b c d rest hk h).trans (if_neg (by simp [hbad]))) h1 ?_ h3 h4 h5 h6 h7
            rw [h2]; exact List.append_assoc ..
          · rw [if_pos rfl]
            exact .of_peelF ((peelF_cons4_ok bad a b c d rest hk h).trans (if_pos hbad)) rfl rfl rfl rfl rfl rfl rfl
        · rw [if_neg h]
          exact .of_peelF (peelF_cons4_wait bad a b c d rest (hk ▸ h)) rfl (List.append_nil _).symm rfl rfl rfl rfl rfl

theorem receive_on (bad : Bytes → Bool) (fuel : Nat) (buf chunk : Bytes) (hf : (buf ++ chunk).length < fuel) :
    LoopPost bad { self__read_buffer := buf ++ chunk, prop_PROP_ENABLED := some true, data := chunk }
      (receive bad fuel { self__read_buffer := buf, prop_PROP_ENABLED := some true, data := chunk }) :=
  loop_is_peelF bad fuel _ hf rfl rfl

end Yow.Segments
