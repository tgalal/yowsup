/-
  The socket-side send buffer (Model/SendBuf.lean): with the lock, for every schedule of the senders and the loop thread,
  what reached the socket plus what is still buffered is exactly what was handed to sendData, in order.
  The invariant: a thread holds the lock exactly when it is inside a critical section, and `InSec` says for each point of
  the section how buffer, socket and the thread's local copies are related; the other threads have whole programs left.
-/
import YowsupVerif.Model.SendBuf
import YowsupVerif.Lemmas.Threads
namespace Yow.SendBuf

abbrev lockedCfg : Cfg := { locked := true, appendLocked := true }

/-- whole `sendData` / `handleWrite` programs: what a thread outside a critical section has left -/
inductive Prog : List Op → Prop
  | nil : Prog []
  | sd (d : List Nat) (rest : List Op) : Prog rest →
      Prog (.acq :: .load :: .store d :: .read :: .send :: .cut :: .rel :: rest)
  | hw (rest : List Op) : Prog rest → Prog (.acq :: .read :: .send :: .cut :: .rel :: rest)

def pending : List Op → List Nat
  | [] => []
  | .store d :: r => d ++ pending r
  | _ :: r => pending r

inductive InSec (buf socket appended : List Nat) (t : Thread) : Prop
  | load (d : List Nat) (rest : List Op) : t.ops = .load :: .store d :: .read :: .send :: .cut :: .rel :: rest → Prog rest →
      socket ++ buf = appended → InSec buf socket appended t
  | store (d : List Nat) (rest : List Op) : t.ops = .store d :: .read :: .send :: .cut :: .rel :: rest → Prog rest →
      socket ++ buf = appended → t.tmp = buf → InSec buf socket appended t
  | read (rest : List Op) : t.ops = .read :: .send :: .cut :: .rel :: rest → Prog rest →
      socket ++ buf = appended → InSec buf socket appended t
  | send (rest : List Op) : t.ops = .send :: .cut :: .rel :: rest → Prog rest →
      socket ++ buf = appended → t.snapshot = buf → InSec buf socket appended t
  | cut (rest : List Op) : t.ops = .cut :: .rel :: rest → Prog rest →
      t.sent ≤ buf.length → socket ++ buf.drop t.sent = appended → InSec buf socket appended t
  | rel (rest : List Op) : t.ops = .rel :: rest → Prog rest →
      socket ++ buf = appended → InSec buf socket appended t

def Sec (lock : Option Nat) (buf socket appended : List Nat) (i : Nat) (t : Thread) : Prop :=
  if lock = some i then InSec buf socket appended t else Prog t.ops

/-- Any number of threads; only thread 0 hands data to `sendData`, so `appended` and what thread 0 has still to hand over
    make up `total`. -/
structure Inv (total : List Nat) (s : St) : Prop where
  sec : ∀ i t, s.threads[i]? = some t → Sec s.lock s.buf s.socket s.appended i t
  quiet : ∀ i t, s.threads[i]? = some t → i ≠ 0 → pending t.ops = []
  acct : ∃ t, s.threads[0]? = some t ∧ s.appended ++ pending t.ops = total
  holder : ∀ i, s.lock = some i → i < s.threads.length
  free : s.lock = none → s.socket ++ s.buf = s.appended

theorem prog_sendData (frames : List (List Nat)) : Prog (frames.flatMap (sendData lockedCfg)) := by
  induction frames with
  | nil => exact .nil
  | cons d fs ih => exact .sd d _ ih

theorem pending_sendData (frames : List (List Nat)) :
    pending (frames.flatMap (sendData lockedCfg)) = frames.flatten := by
  induction frames with
  | nil => rfl
  | cons d fs ih => exact congrArg (d ++ ·) ih

theorem prog_handleWrite (n : Nat) : Prog (List.replicate n (handleWrite lockedCfg)).flatten := by
  induction n with
  | zero => exact .nil
  | succ n ih => exact .hw _ ih

theorem pending_handleWrite (n : Nat) : pending (List.replicate n (handleWrite lockedCfg)).flatten = [] := by
  induction n with
  | zero => rfl
  | succ n ih => exact ih

theorem inv_init (frames : List (List Nat)) (flushes : Nat) :
    Inv frames.flatten (init lockedCfg frames flushes) where
  sec
    | 0, _, rfl => prog_sendData frames
    | 1, _, rfl => prog_handleWrite flushes
  quiet
    | 0, _, _, h => absurd rfl h
    | 1, _, rfl, _ => pending_handleWrite flushes
  acct := ⟨_, rfl, pending_sendData frames⟩
  holder := nofun
  free _ := rfl

/-- Thread `i` holds the lock before the step, after it, or both, so the other threads are outside their sections
    throughout.  `d` is what the step hands over. -/
theorem Inv.update {total : List Nat} {s : St} (h : Inv total s) {i : Nat} {t t' : Thread} (ht : s.threads[i]? = some t)
    (hl : ∀ k, s.lock = some k → k = i) {lock' : Option Nat} (hl' : ∀ k, lock' = some k → k = i)
    {buf' socket' appended' : List Nat} (hsec : Sec lock' buf' socket' appended' i t')
    (hfree : lock' = none → socket' ++ buf' = appended')
    (d : List Nat) (happ : appended' = s.appended ++ d) (hpend : pending t.ops = d ++ pending t'.ops) :
    Inv total { threads := s.threads.set i t', lock := lock', buf := buf', socket := socket', appended := appended' } where
  sec := forall_getElem?_set hsec fun k tk hk hget => by
    have := h.sec k tk hget
    unfold Sec at this ⊢
    rw [if_neg fun e => hk (hl k e)] at this
    rw [if_neg fun e => hk (hl' k e)]
    exact this
  quiet := forall_getElem?_set (P := fun k t => k ≠ 0 → pending t.ops = [])
    (fun h0 => by
      have := h.quiet i t ht h0
      rw [hpend] at this
      exact (List.append_eq_nil_iff.mp this).2)
    fun k tk _ hget => h.quiet k tk hget
  acct := by
    obtain ⟨t0, h0, hacc⟩ := h.acct
    by_cases hi : i = 0
    · subst hi
      rw [ht] at h0
      cases h0
      refine ⟨t', List.getElem?_set_self (List.getElem?_eq_some_iff.mp ht).1, ?_⟩
      show appended' ++ pending t'.ops = total
      rw [happ, List.append_assoc, ← hpend]
      exact hacc
    · have hq := h.quiet i t ht hi
      rw [hpend] at hq
      refine ⟨t0, (List.getElem?_set_ne hi).trans h0, ?_⟩
      show appended' ++ pending t0.ops = total
      rw [happ, (List.append_eq_nil_iff.mp hq).1, List.append_nil]
      exact hacc
  holder k hk := by
    show k < (s.threads.set i t').length
    rw [List.length_set, hl' k hk]
    exact (List.getElem?_eq_some_iff.mp ht).1
  free := hfree

theorem Inv.inside {total : List Nat} {s : St} (h : Inv total s) {i : Nat} {t t' : Thread} (ht : s.threads[i]? = some t)
    (hl : ∀ k, s.lock = some k → k = i) {buf' socket' : List Nat} (hin : InSec buf' socket' s.appended t')
    (hpend : pending t.ops = pending t'.ops) :
    Inv total { threads := s.threads.set i t', lock := some i, buf := buf', socket := socket', appended := s.appended } :=
  h.update ht hl (fun _ e => (Option.some.inj e).symm) ((if_pos rfl).mpr hin) nofun [] (List.append_nil _).symm hpend

theorem Inv.acquire {total : List Nat} {s : St} (h : Inv total s) {i : Nat} {t t' : Thread} (ht : s.threads[i]? = some t)
    (hin : s.socket ++ s.buf = s.appended → InSec s.buf s.socket s.appended t') (hpend : pending t.ops = pending t'.ops) :
    Inv total (if s.lock.isNone then { setThread s i t' with lock := some i } else s) := by
  by_cases hn : s.lock.isNone = true
  · have hl : s.lock = none := Option.isNone_iff_eq_none.mp hn
    rw [if_pos hn]
    exact h.inside ht (fun _ e => nomatch hl.symm.trans e) (hin (h.free hl)) hpend
  · rw [if_neg hn]; exact h

theorem inv_step {total : List Nat} {s : St} (h : Inv total s) (i cap : Nat) : Inv total (step s i cap) := by
  unfold step
  split
  · exact h
  next t ht =>
  have hsec := h.sec i t ht
  obtain ⟨threads, lock, buf, socket, appended⟩ := s
  obtain ⟨ops, sn, se, tm⟩ := t
  simp only [Sec] at hsec
  split at hsec
  next hlk =>
    -- thread `i` holds the lock: it moves on inside its section
    subst hlk
    have hl : ∀ k, some i = some k → k = i := fun _ e => (Option.some.inj e).symm
    cases hsec with
    | load d rest ho pr hs => cases ho; exact h.inside ht hl (.store d rest rfl pr hs rfl) rfl
    | store d rest ho pr hs htm =>
      cases ho
      refine h.update (lock' := some i) ht hl hl ((if_pos rfl).mpr (.read rest rfl pr ?_)) nofun d rfl rfl
      show socket ++ (tm ++ d) = appended ++ d
      rw [show tm = buf from htm, ← List.append_assoc, hs]
    | read rest ho pr hs => cases ho; exact h.inside ht hl (.send rest rfl pr hs rfl) rfl
    | send rest ho pr hs hsn =>
      cases ho
      refine h.inside ht hl (.cut rest rfl pr ((show sn = buf from hsn) ▸ Nat.min_le_right _ _) ?_) rfl
      show (socket ++ sn.take cap) ++ buf.drop (min cap sn.length) = appended
      rw [show sn = buf from hsn, List.append_assoc, List.take_eq_take_min, List.take_append_drop, hs]
    | cut rest ho pr hk hs => cases ho; exact h.inside ht hl (.rel rest rfl pr hs) rfl
    | rel rest ho pr hs =>
      cases ho
      exact h.update (lock' := none) ht hl (fun _ e => nomatch e) ((if_neg (nomatch ·)).mpr pr) (fun _ => hs)
        [] (List.append_nil _).symm rfl
  next hlk =>
    -- thread `i` is outside: it has finished, or its next operation takes the lock if that is free
    cases hsec with
    | nil => exact h
    | sd d rest pr => exact h.acquire ht (.load d rest rfl pr ·) rfl
    | hw rest pr => exact h.acquire ht (.read rest rfl pr ·) rfl

theorem inv_run {total : List Nat} {s : St} (h : Inv total s) : ∀ sched, Inv total (run s sched)
  | [] => h
  | (i, cap) :: is => inv_run (inv_step h i cap) is

theorem inv_reach (frames : List (List Nat)) (flushes : Nat) (sched : List (Nat × Nat)) :
    Inv frames.flatten (run (init lockedCfg frames flushes) sched) :=
  inv_run (inv_init frames flushes) sched

theorem InSec.socket_append_drop {buf socket appended : List Nat} {t : Thread} (h : InSec buf socket appended t) :
    ∃ k, k ≤ buf.length ∧ socket ++ buf.drop k = appended := by
  cases h with
  | cut rest ho pr hk hs => exact ⟨t.sent, hk, hs⟩
  | load d rest ho pr hs | store d rest ho pr hs | read rest ho pr hs | send rest ho pr hs | rel rest ho pr hs =>
    exact ⟨0, Nat.zero_le _, hs⟩

theorem InSec.head {buf socket appended : List Nat} {t : Thread} (h : InSec buf socket appended t) :
    ∃ op rest, t.ops = op :: rest ∧ op ≠ .acq := by
  cases h with
  | load d rest ho | store d rest ho | read rest ho | send rest ho | cut rest ho | rel rest ho => exact ⟨_, _, ho, nofun⟩

theorem Prog.head {ops : List Op} (h : Prog ops) (hne : ops ≠ []) : ∃ rest, ops = .acq :: rest := by
  cases h with
  | nil => exact absurd rfl hne
  | sd d rest | hw rest => exact ⟨_, rfl⟩

theorem Inv.holder_inSec {total : List Nat} {s : St} (h : Inv total s) {i : Nat} (hl : s.lock = some i) :
    ∃ t, s.threads[i]? = some t ∧ InSec s.buf s.socket s.appended t :=
  ⟨_, List.getElem?_eq_getElem (h.holder i hl), (if_pos hl).mp (h.sec i _ (List.getElem?_eq_getElem (h.holder i hl)))⟩

/-- `k` is the part of the buffer that the thread inside a flush has already sent and not yet cut (0 otherwise) -/
theorem Inv.socket_append_drop {total : List Nat} {s : St} (h : Inv total s) :
    ∃ k, k ≤ s.buf.length ∧ s.socket ++ s.buf.drop k = s.appended := by
  cases hl : s.lock with
  | none => exact ⟨0, Nat.zero_le _, h.free hl⟩
  | some i =>
    obtain ⟨t, -, hin⟩ := h.holder_inSec hl
    exact hin.socket_append_drop

/-- a last partial send may have left a tail in the buffer for the next handle_write -/
theorem Inv.exact_of_finished {total : List Nat} {s : St} (h : Inv total s) (hf : finished s = true) : s.socket ++ s.buf = total := by
  have hf : ∀ (i : Nat) (t : Thread), s.threads[i]? = some t → t.ops = [] := all_isEmpty_iff.mp hf
  cases hl : s.lock with
  | some i =>
    obtain ⟨t, ht, hin⟩ := h.holder_inSec hl
    obtain ⟨op, rest, ho, -⟩ := hin.head
    rw [hf i t ht] at ho
    cases ho
  | none =>
    obtain ⟨t, ht, hacc⟩ := h.acct
    rw [hf 0 t ht] at hacc
    rw [h.free hl]
    exact (List.append_nil _).symm.trans hacc

/-- the thread's remaining operations get shorter -/
theorem step_ne {s : St} {i : Nat} {t : Thread} {op : Op} {rest : List Op} (cap : Nat)
    (ht : s.threads[i]? = some t) (ho : t.ops = op :: rest) (hl : op = .acq → s.lock = none) : step s i cap ≠ s := by
  have key : ∃ t', t'.ops = rest ∧ (step s i cap).threads = s.threads.set i t' := by
    unfold step
    simp only [ht, ho]
    cases op with
    | acq => rw [hl rfl]; exact ⟨_, rfl, rfl⟩
    | _ => exact ⟨_, rfl, rfl⟩
  obtain ⟨t', ho', hth⟩ := key
  exact fun e => set_ne_of_tail ht ho ho' (hth.symm.trans (congrArg St.threads e))

theorem Inv.progress {total : List Nat} {s : St} (h : Inv total s) (hf : finished s = false) :
    ∃ i, ∀ cap, step s i cap ≠ s := by
  cases hl : s.lock with
  | some i =>
    obtain ⟨t, ht, hin⟩ := h.holder_inSec hl
    obtain ⟨op, rest, ho, hn⟩ := hin.head
    exact ⟨i, fun cap => step_ne cap ht ho fun e => absurd e hn⟩
  | none =>
    obtain ⟨i, t, ht, hne⟩ := exists_of_all_isEmpty_eq_false hf
    have hp : Prog t.ops := (if_neg (hl ▸ (nomatch ·))).mp (h.sec i t ht)
    obtain ⟨rest, ho⟩ := hp.head hne
    exact ⟨i, fun cap => step_ne cap ht ho fun _ => hl⟩

theorem progress (frames : List (List Nat)) (flushes : Nat) (sched : List (Nat × Nat)) :
    let s := run (init { locked := true, appendLocked := true } frames flushes) sched
    finished s = false → ∃ i, ∀ cap, step s i cap ≠ s :=
  (inv_reach frames flushes sched).progress

end Yow.SendBuf
