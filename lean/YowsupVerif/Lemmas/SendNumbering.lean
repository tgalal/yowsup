/-
  Model/SendNumbering.lean with the size check before the encryption: every send keeps the cipher in step with the wire
  (`InStep`) — a refused send changes nothing, an accepted one writes the next number and advances the cipher by one.
-/
import YowsupVerif.Model.SendNumbering
namespace Yow.SendNumbering

theorem send_inStep (s : St) (h : InStep s) (size : Nat) : InStep (send true s size).1 := by
  unfold send
  split
  · exact h
  · obtain ⟨hw, hn⟩ := h
    refine ⟨?_, by simp [hn]⟩
    -- the new frame carries number `s.next`, which is the number of frames written before it
    simp only [List.length_append, List.length_singleton]
    rw [List.range_succ, hn]
    congr 1

theorem run_inStep (sizes : List Nat) : ∀ (s : St), InStep s → InStep (run true s sizes) := by
  induction sizes with
  | nil => intro s h; simpa [run] using h
  | cons n ns ih => intro s h; exact ih _ (send_inStep s h n)

end Yow.SendNumbering
