/-
  Lemmas about the memory of sent messages (Model/SentQueue.lean) when a full memory forgets its oldest entry: it stays
  within its bound, a sent message stays until enough later sends push it out (by an invariant on its position), and
  under sends only it is the last `cap` entries of the history.
-/
import YowsupVerif.Model.SentQueue
namespace Yow.SentQueue

theorem run_append (b : Bool) (cap : Nat) (q : List Nat) (ops ops' : List Op) :
    run b cap q (ops ++ ops') = run b cap (run b cap q ops) ops' :=
  List.foldl_append

theorem enqueue_length_le (cap : Nat) (hc : 0 < cap) (q : List Nat) (hq : q.length ≤ cap) (x : Nat) :
    (enqueue true cap q x).length ≤ cap := by
  by_cases hfull : q.length ≥ cap
  · rw [enqueue, if_pos hfull, if_pos rfl, List.length_append, List.length_tail, List.length_singleton,
      Nat.sub_add_cancel (Nat.le_trans hc hfull)]
    exact hq
  · rw [enqueue, if_neg hfull, List.length_append, List.length_singleton]
    exact Nat.lt_of_not_ge hfull

theorem step_length_le (cap : Nat) (hc : 0 < cap) (q : List Nat) (hq : q.length ≤ cap) (o : Op) :
    (step true cap q o).length ≤ cap := by
  cases o with
  | enq x => exact enqueue_length_le cap hc q hq x
  | take x keep =>
    cases keep with
    | true => exact hq
    | false => exact Nat.le_trans (List.length_erase_le ..) hq

theorem run_length_le (cap : Nat) (hc : 0 < cap) (q : List Nat) (hq : q.length ≤ cap) (ops : List Op) :
    (run true cap q ops).length ≤ cap := by
  induction ops generalizing q with
  | nil => exact hq
  | cons o ops ih => exact ih (step true cap q o) (step_length_le cap hc q hq o)

theorem enqueue_keeps (cap x y : Nat) (l r : List Nat) (h : r.length + 1 < cap) :
    ∃ l', enqueue true cap (l ++ x :: r) y = l' ++ x :: (r ++ [y]) := by
  by_cases hfull : (l ++ x :: r).length ≥ cap
  · cases l with
    | nil => exact absurd hfull (Nat.not_le.mpr h)
    | cons a l' => exact ⟨l', by rw [enqueue, if_pos hfull, if_pos rfl, List.cons_append, List.tail_cons,
        List.append_assoc, List.cons_append]⟩
  · exact ⟨l, by rw [enqueue, if_neg hfull, List.append_assoc, List.cons_append]⟩

theorem take_keeps (cap x y : Nat) (keep : Bool) (l r : List Nat) (h : removes x (.take y keep) = false) :
    ∃ l' r', step true cap (l ++ x :: r) (.take y keep) = l' ++ x :: r' ∧ r'.length ≤ r.length := by
  cases keep with
  | true => exact ⟨l, r, rfl, Nat.le_refl _⟩
  | false =>
    have hxy : ¬(x == y) = true := fun e => by
      rw [removes, Bool.beq_comm, e] at h
      exact absurd h (by decide)
    by_cases hyl : y ∈ l
    · exact ⟨l.erase y, r, List.erase_append_left _ hyl, Nat.le_refl _⟩
    · exact ⟨l, r.erase y, by rw [step, if_neg Bool.false_ne_true, List.erase_append_right _ hyl,
        List.erase_cons_tail hxy], List.length_erase_le ..⟩

/-- The invariant behind `sent_message_stays` is the position of `x`: the memory is `l ++ x :: r`, and `r` (what was
    sent after `x` and is still held) is shorter than `cap` minus the sends still to come, so a full memory always has
    something older than `x` to forget (`enqueue_keeps`), and a receipt for another message leaves `x` where it is or
    shortens `r` (`take_keeps`). -/
theorem found_of_position (cap x : Nat) (post : List Op) :
    ∀ l r : List Nat, r.length + (post.filter isEnq).length < cap → (∀ o ∈ post, removes x o = false) →
      found (run true cap (l ++ x :: r) post) x = true := by
  induction post with
  | nil =>
    intro l r _ _
    exact List.contains_iff_mem.mpr (List.mem_append_right l List.mem_cons_self)
  | cons o post ih =>
    intro l r hn hk
    have hk' : ∀ o ∈ post, removes x o = false := fun o' ho' => hk o' (List.mem_cons_of_mem _ ho')
    show found (run true cap (step true cap (l ++ x :: r) o) post) x = true
    cases o with
    | enq y =>
      have hn' : (r ++ [y]).length + (post.filter isEnq).length < cap := by
        rw [List.length_append, List.length_singleton, Nat.add_assoc, Nat.add_comm 1]
        exact hn
      obtain ⟨l', hs⟩ := enqueue_keeps cap x y l r
        (Nat.lt_of_le_of_lt (Nat.add_le_add_left (Nat.succ_le_succ (Nat.zero_le _)) _) hn)
      rw [step, hs]
      exact ih l' _ hn' hk'
    | take y keep =>
      obtain ⟨l', r', hs, hr'⟩ := take_keeps cap x y keep l r (hk _ List.mem_cons_self)
      rw [hs]
      exact ih l' r' (Nat.lt_of_le_of_lt (Nat.add_le_add_right hr' _) hn) hk'

theorem enqueue_ends_with (cap : Nat) (q : List Nat) (x : Nat) : ∃ l, enqueue true cap q x = l ++ [x] := by
  by_cases hfull : q.length ≥ cap
  · exact ⟨q.tail, by rw [enqueue, if_pos hfull, if_pos rfl]⟩
  · exact ⟨q, by rw [enqueue, if_neg hfull]⟩

theorem sent_message_stays (cap : Nat) (q : List Nat) (pre post : List Op) (x : Nat)
    (hfew : (post.filter isEnq).length < cap) (hkeep : ∀ o ∈ post, removes x o = false) :
    found (run true cap q (pre ++ Op.enq x :: post)) x = true := by
  obtain ⟨l, hl⟩ := enqueue_ends_with cap (run true cap q pre) x
  rw [run_append]
  show found (run true cap (enqueue true cap (run true cap q pre) x) post) x = true
  rw [hl]
  exact found_of_position cap x post l [] (by rw [List.length_nil, Nat.zero_add]; exact hfew) hkeep

theorem enqueue_drop (cap : Nat) (hc : 0 < cap) (L : List Nat) (a : Nat) :
    enqueue true cap (L.drop (L.length - cap)) a = (L ++ [a]).drop ((L ++ [a]).length - cap) := by
  rw [enqueue, List.length_drop, List.length_append, List.length_singleton]
  by_cases h : cap ≤ L.length
  · have hlt : L.length - cap + 1 ≤ L.length := Nat.sub_lt (Nat.lt_of_lt_of_le hc h) hc
    rw [Nat.sub_sub_self h, if_pos (Nat.le_refl _), if_pos rfl, List.tail_drop, Nat.sub_add_comm h,
      List.drop_append_of_le_length hlt]
  · have hlt : L.length < cap := Nat.lt_of_not_ge h
    rw [Nat.sub_eq_zero_of_le (Nat.le_of_lt hlt), Nat.sub_eq_zero_of_le hlt, Nat.sub_zero,
      if_neg (Nat.not_le.mpr hlt)]
    rfl

theorem run_enq_drop (cap : Nat) (hc : 0 < cap) (xs : List Nat) : ∀ L : List Nat,
    run true cap (L.drop (L.length - cap)) (xs.map Op.enq) = (L ++ xs).drop ((L ++ xs).length - cap) := by
  induction xs with
  | nil => intro L; rw [List.append_nil]; rfl
  | cons a xs ih =>
    intro L
    show run true cap (enqueue true cap (L.drop (L.length - cap)) a) (xs.map Op.enq) = _
    rw [enqueue_drop cap hc, ih (L ++ [a]), List.append_assoc]
    rfl

end Yow.SentQueue
