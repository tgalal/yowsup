/-
  Refinement lemmas: the index-wired mechanism of Model/Stack.lean equals the list-recursive spec.  The mechanism
  follows `upper`/`lower` references through an arbitrary instance list.  What it does depends only on the slots met
  on the way (`Path`), so each walker is related to its spec once, for any instance list; `construct` enters only
  through the two paths it lays out (`path_upper`, `path_lower`).
-/
import YowsupVerif.Model.Stack
namespace Yow.Stack

theorem wire_get (s : List Slot) (k : Nat) (rest : List Slot) (i : Nat) :
    (wire s k rest)[i]? = (rest[i]?).map (fun sl =>
      { slot := sl,
        upper := if k + i + 1 < s.length then some (k + i + 1) else none,
        lower := if 0 < k + i then some (k + i - 1) else none }) := by
  induction rest generalizing k i with
  | nil => rfl
  | cons a r ih =>
    cases i with
    | zero => rfl
    | succ j => simp only [wire, List.getElem?_cons_succ, ih, Nat.add_right_comm k 1 j, Nat.add_assoc k j 1]

theorem wire_slots (s : List Slot) (k : Nat) (rest : List Slot) :
    (wire s k rest).map Inst.slot = rest := by
  induction rest generalizing k with
  | nil => rfl
  | cons a r ih => simp only [wire, List.map_cons, ih]

theorem construct_slots (arr : List Slot) : (construct arr false).map Inst.slot = arr :=
  wire_slots arr 0 arr

theorem construct_length (arr : List Slot) : (construct arr false).length = arr.length := by
  rw [← List.length_map (f := Inst.slot), construct_slots]

theorem construct_get (arr : List Slot) (i : Nat) (hi : i < arr.length) :
    (construct arr false)[i]? = some
      { slot := arr[i],
        upper := if i + 1 < arr.length then some (i + 1) else none,
        lower := if 0 < i then some (i - 1) else none } := by
  simp only [construct, wire_get, List.getElem?_eq_getElem hi, Nat.zero_add, Option.map_some,
    Bool.false_eq_true, if_false]

theorem construct_reversed (arr : List Slot) : construct arr true = construct arr.reverse false := rfl

/-- Starting at instance `o` and following `next` (`Inst.upper` or `Inst.lower`) until it yields
    `none` meets instances holding exactly `slots`, in this order. -/
def Path (next : Inst → Option Nat) (insts : List Inst) : Option Nat → List Slot → Prop
  | o, [] => o = none
  | o, s :: rest =>
    ∃ i inst, o = some i ∧ insts[i]? = some inst ∧ inst.slot = s ∧ Path next insts (next inst) rest

theorem path_upper (arr : List Slot) :
    ∀ k i, i + k = arr.length →
      Path Inst.upper (construct arr false) (if i < arr.length then some i else none) (arr.drop i)
  | 0, i, h => by
    rw [List.drop_eq_nil_of_le (by omega), if_neg (by omega)]
    rfl
  | k + 1, i, h => by
    have hi : i < arr.length := by omega
    rw [List.drop_eq_getElem_cons hi, if_pos hi]
    exact ⟨i, _, rfl, construct_get arr i hi, rfl, path_upper arr k (i + 1) (by omega)⟩

theorem path_lower (arr : List Slot) (i : Nat) (hi : i ≤ arr.length) :
    Path Inst.lower (construct arr false) (if 0 < i then some (i - 1) else none) (arr.take i).reverse := by
  induction i with
  | zero => rfl
  | succ k ih =>
    rw [List.take_succ_eq_append_getElem hi, List.reverse_append]
    exact ⟨k, _, rfl, construct_get arr k hi, rfl, ih (by omega)⟩

theorem path_upper_of_lt {arr : List Slot} {i : Nat} (hi : i < arr.length) :
    Path Inst.upper (construct arr false) (some i) (arr[i] :: arr.drop (i + 1)) := by
  have h := path_upper arr (arr.length - i) i (by omega)
  rwa [if_pos hi, List.drop_eq_getElem_cons hi] at h

theorem path_lower_of_lt {arr : List Slot} {i : Nat} (hi : i < arr.length) :
    Path Inst.lower (construct arr false) (some i) (arr[i] :: (arr.take i).reverse) := by
  have h := path_lower arr (i + 1) hi
  rwa [List.take_succ_eq_append_getElem hi, List.reverse_append] at h

/-- Neither path is longer than the fuel `insts.length` that the stack's own entry points give. -/
theorem drop_length_le_construct (arr : List Slot) (i : Nat) :
    (arr.drop i).length ≤ (construct arr false).length := by
  rw [construct_length, List.length_drop]; exact Nat.sub_le _ _

theorem take_reverse_length_le_construct (arr : List Slot) (i : Nat) :
    (arr.take i).reverse.length ≤ (construct arr false).length := by
  rw [construct_length, List.length_reverse, List.length_take]; exact Nat.min_le_right _ _

theorem fuel_succ {n fuel : Nat} (h : n + 1 ≤ fuel) : ∃ f, fuel = f + 1 ∧ n ≤ f :=
  ⟨fuel - 1, (Nat.sub_add_cancel (Nat.le_trans (Nat.le_add_left 1 n) h)).symm, Nat.le_sub_one_of_lt h⟩

theorem sendAt_path (B : Nat → LayerB) {insts : List Inst} {slots : List Slot} {fuel i : Nat} (m : Nat)
    (h : Path Inst.lower insts (some i) slots) (hf : slots.length ≤ fuel) :
    sendAt B insts fuel i m = specDown B slots m := by
  induction slots generalizing fuel i m with
  | nil => exact nomatch h
  | cons s rest ih =>
    obtain ⟨_, inst, ⟨rfl⟩, hi, rfl, hp⟩ := h
    obtain ⟨f, rfl, hf'⟩ := fuel_succ hf
    simp only [sendAt, hi, specDown]
    generalize inst.lower = o at hp
    cases rest with
    | nil => cases hp; rfl
    | cons s' rest' =>
      obtain ⟨j, inst', rfl, hj⟩ := hp
      simp only [fun m' => ih m' ⟨j, inst', rfl, hj⟩ hf']

theorem recvAt_path (B : Nat → LayerB) {insts : List Inst} {slots : List Slot} {fuel i : Nat} (m : Nat)
    (h : Path Inst.upper insts (some i) slots) (hf : slots.length ≤ fuel) :
    recvAt B insts fuel i m = specUp B slots m := by
  induction slots generalizing fuel i m with
  | nil => exact nomatch h
  | cons s rest ih =>
    obtain ⟨_, inst, ⟨rfl⟩, hi, rfl, hp⟩ := h
    obtain ⟨f, rfl, hf'⟩ := fuel_succ hf
    simp only [recvAt, hi, specUp]
    generalize inst.upper = o at hp
    cases rest with
    | nil => cases hp; rfl
    | cons s' rest' =>
      obtain ⟨j, inst', rfl, hj⟩ := hp
      simp only [fun m' => ih m' ⟨j, inst', rfl, hj⟩ hf']

theorem specEvent_cons_out (B : Nat → LayerB) (ev : Nat) (s : Slot) (rest : List Slot) :
    (if (onEventInst B ev s).2 = true then (⟨(onEventInst B ev s).1, none⟩ : EvOut)
      else ⟨(onEventInst B ev s).1 ++ specEvent B ev rest, none⟩) = ⟨specEvent B ev (s :: rest), none⟩ := by
  simp only [specEvent]
  split <;> rfl

theorem emitAt_path (B : Nat → LayerB) {insts : List Inst} {s : Slot} {slots : List Slot} {fuel i : Nat} (ev : Nat)
    (h : Path Inst.upper insts (some i) (s :: slots)) (hf : slots.length ≤ fuel) :
    emitAt B insts fuel i ev false = ⟨specEvent B ev slots, none⟩ := by
  induction slots generalizing s fuel i with
  | nil =>
    obtain ⟨_, inst, ⟨rfl⟩, hi, -, hn⟩ := h
    cases fuel with
    | zero => rfl
    | succ f => simp only [emitAt, hi, show inst.upper = none from hn, specEvent]
  | cons s' rest ih =>
    obtain ⟨_, inst, ⟨rfl⟩, hi, -, j, up, hu, hj, rfl, hp⟩ := h
    obtain ⟨f, rfl, hf'⟩ := fuel_succ hf
    simp only [emitAt, hi, hu, hj, ih ⟨j, up, rfl, hj, rfl, hp⟩ hf',
      Bool.false_eq_true, if_false]
    exact specEvent_cons_out B ev up.slot rest

theorem broadcastAt_path (B : Nat → LayerB) {insts : List Inst} {s : Slot} {slots : List Slot} {fuel i : Nat} (ev : Nat)
    (h : Path Inst.lower insts (some i) (s :: slots)) (hf : slots.length ≤ fuel) :
    broadcastAt B insts fuel i ev false = ⟨specEvent B ev slots, none⟩ := by
  induction slots generalizing s fuel i with
  | nil =>
    obtain ⟨_, inst, ⟨rfl⟩, hi, -, hn⟩ := h
    cases fuel with
    | zero => rfl
    | succ f => simp only [broadcastAt, hi, show inst.lower = none from hn, specEvent]
  | cons s' rest ih =>
    obtain ⟨_, inst, ⟨rfl⟩, hi, -, j, lo, hl, hj, rfl, hp⟩ := h
    obtain ⟨f, rfl, hf'⟩ := fuel_succ hf
    simp only [broadcastAt, hi, hl, hj, ih ⟨j, lo, rfl, hj, rfl, hp⟩ hf',
      Bool.false_eq_true, if_false]
    exact specEvent_cons_out B ev lo.slot rest

theorem emitAt_detached_path (B : Nat → LayerB) {insts : List Inst} {s : Slot} {slots : List Slot} {fuel i : Nat}
    (ev : Nat) (h : Path Inst.upper insts (some i) (s :: slots)) (hf : 0 < fuel)
    (hlen : slots.length ≤ insts.length) :
    (emitAt B insts fuel i ev true).seen ++
      (match (emitAt B insts fuel i ev true).deferred with
       | some j => loopRunsEmit B insts j ev
       | none => [])
      = specEvent B ev slots := by
  obtain ⟨f, rfl⟩ : ∃ f, fuel = f + 1 := Nat.exists_eq_add_one.mpr hf
  obtain ⟨_, inst, ⟨rfl⟩, hi, -, hp⟩ := h
  cases slots with
  | nil => simp only [emitAt, hi, show inst.upper = none from hp, specEvent, List.append_nil]
  | cons s' rest =>
    obtain ⟨j, up, hu, hj, rfl, hp⟩ := hp
    have hrest := emitAt_path B ev ⟨j, up, rfl, hj, rfl, hp⟩ (Nat.le_of_succ_le hlen)
    simp only [emitAt, hi, hu, hj, if_true, specEvent]
    split
    · exact List.append_nil _
    · simp only [loopRunsEmit, hrest]

theorem broadcastAt_detached_path (B : Nat → LayerB) {insts : List Inst} {s : Slot} {slots : List Slot}
    {fuel i : Nat} (ev : Nat) (h : Path Inst.lower insts (some i) (s :: slots)) (hf : 0 < fuel)
    (hlen : slots.length ≤ insts.length) :
    (broadcastAt B insts fuel i ev true).seen ++
      (match (broadcastAt B insts fuel i ev true).deferred with
       | some j => loopRunsBroadcast B insts j ev
       | none => [])
      = specEvent B ev slots := by
  obtain ⟨f, rfl⟩ : ∃ f, fuel = f + 1 := Nat.exists_eq_add_one.mpr hf
  obtain ⟨_, inst, ⟨rfl⟩, hi, -, hp⟩ := h
  cases slots with
  | nil => simp only [broadcastAt, hi, show inst.lower = none from hp, specEvent, List.append_nil]
  | cons s' rest =>
    obtain ⟨j, lo, hl, hj, rfl, hp⟩ := hp
    have hrest := broadcastAt_path B ev ⟨j, lo, rfl, hj, rfl, hp⟩ (Nat.le_of_succ_le hlen)
    simp only [broadcastAt, hi, hl, hj, if_true, specEvent]
    split
    · exact List.append_nil _
    · simp only [loopRunsBroadcast, hrest]

/-- `YowStack.emitEvent` / `broadcastEvent` (normal events): the whole stack, bottom-up / top-down. -/
theorem stackEmits_spec (B : Nat → LayerB) (arr : List Slot) (ev : Nat) :
    stackEmits B (construct arr false) ev false = ⟨specEvent B ev arr, none⟩ := by
  cases arr with
  | nil => rfl
  | cons a r =>
    have hi : 0 < (a :: r).length := Nat.succ_pos _
    have hp : Path Inst.upper (construct (a :: r) false) (some 0) (a :: r) := path_upper_of_lt hi
    have he := emitAt_path B ev hp (fuel := (construct (a :: r) false).length)
      (by rw [construct_length]; exact Nat.le_succ _)
    simp only [stackEmits, construct_get (a :: r) 0 hi, he]
    exact specEvent_cons_out B ev a r

theorem stackBroadcasts_spec (B : Nat → LayerB) (arr : List Slot) (ev : Nat) :
    stackBroadcasts B (construct arr false) ev false = ⟨specEvent B ev arr.reverse, none⟩ := by
  have hp := path_lower arr arr.length (Nat.le_refl _)
  rw [List.take_length] at hp
  have hlen : arr.reverse.length = (construct arr false).length := by rw [List.length_reverse, construct_length]
  generalize arr.reverse = slots at hp hlen ⊢
  cases slots with
  | nil =>
    rw [stackBroadcasts, List.getElem?_eq_none (by rw [← hlen]; exact Nat.zero_le _)]
    rfl
  | cons s rest =>
    rw [if_pos (by rw [← construct_length, ← hlen]; exact Nat.succ_pos _), ← construct_length] at hp
    obtain ⟨_, inst, ⟨rfl⟩, hi, rfl, hp'⟩ := id hp   -- `id`: `hp` itself is needed for `broadcastAt_path`
    have hb := broadcastAt_path B ev hp (fuel := (construct arr false).length) (by rw [← hlen]; exact Nat.le_succ _)
    simp only [stackBroadcasts, hi, hb]
    exact specEvent_cons_out B ev inst.slot rest

/-- The elements of a list up to and including the first that satisfies `p`: the layers that see an
    event when `p` says who consumes it. -/
def upTo (p : Nat → Bool) : List Nat → List Nat
  | [] => []
  | l :: ls => if p l then [l] else l :: upTo p ls

theorem upTo_append (p : Nat → Bool) (a b : List Nat) :
    upTo p (a ++ b) = if a.any p then upTo p a else a ++ upTo p b := by
  induction a with
  | nil => rfl
  | cons x a ih =>
    cases hx : p x
    · simp only [List.cons_append, upTo, hx, ih, List.any_cons, Bool.false_or, Bool.false_eq_true, if_false]
      split <;> rfl
    · simp only [List.cons_append, upTo, hx, List.any_cons, Bool.true_or, if_true]

theorem upTo_eq_self {p : Nat → Bool} {L : List Nat} (h : ∀ l ∈ L, p l = false) : upTo p L = L := by
  induction L with
  | nil => rfl
  | cons a r ih =>
    simp only [upTo, h a List.mem_cons_self, Bool.false_eq_true, if_false,
      ih fun l hl => h l (List.mem_cons_of_mem a hl)]

theorem upTo_split {p : Nat → Bool} {pre : List Nat} {c : Nat} (post : List Nat)
    (hpre : ∀ l ∈ pre, p l = false) (hc : p c = true) : upTo p (pre ++ c :: post) = pre ++ [c] := by
  rw [upTo_append, if_neg (by simpa using hpre), upTo, if_pos hc]

theorem upTo_prefix (p : Nat → Bool) (L : List Nat) : ∃ k, upTo p L = L.take k := by
  induction L with
  | nil => exact ⟨0, rfl⟩
  | cons a r ih =>
    obtain ⟨k, hk⟩ := ih
    cases ha : p a
    · exact ⟨k + 1, by simp only [upTo, ha, hk, Bool.false_eq_true, if_false, List.take_succ_cons]⟩
    · exact ⟨1, by simp only [upTo, ha, if_true, List.take_succ_cons, List.take_zero]⟩

theorem parOnEvent_eq (B : Nat → LayerB) (ev : Nat) (ls : List Nat) :
    parOnEvent B ev ls = ((upTo (fun l => (B l).consumes ev) ls).map (fun l => Ev.saw l ev),
      ls.any fun l => (B l).consumes ev) := by
  induction ls with
  | nil => rfl
  | cons a r ih =>
    cases ha : (B a).consumes ev <;>
      simp only [parOnEvent, upTo, ha, ih, List.any_cons, Bool.false_or, Bool.true_or, Bool.false_eq_true,
        if_false, if_true, List.map_cons, List.map_nil]

theorem onEventInst_eq (B : Nat → LayerB) (ev : Nat) (s : Slot) :
    onEventInst B ev s = ((upTo (fun l => (B l).consumes ev) (members s)).map (fun l => Ev.saw l ev),
      (members s).any fun l => (B l).consumes ev) := by
  cases s with
  | single l => cases h : (B l).consumes ev <;> simp [onEventInst, members, upTo, h]
  | par ls => exact parOnEvent_eq B ev ls

theorem specEvent_eq (B : Nat → LayerB) (ev : Nat) (slots : List Slot) :
    specEvent B ev slots =
      (upTo (fun l => (B l).consumes ev) (slots.flatMap members)).map (fun l => Ev.saw l ev) := by
  induction slots with
  | nil => rfl
  | cons s rest ih =>
    simp only [specEvent, onEventInst_eq, ih, List.flatMap_cons, upTo_append]
    split
    · rfl
    · next h => rw [List.map_append, upTo_eq_self (by simpa using h)]

theorem parInterface_spec (B : Nat → LayerB) (c : Nat) (ls : List Nat) :
    parInterface B c ls = (ls.find? (fun l => (B l).cls = c)).bind (fun l => (B l).iface) := by
  induction ls with
  | nil => rfl
  | cons a r ih =>
    by_cases ha : (B a).cls = c
    · simp [parInterface, ha]
    · simp [parInterface, ha, ih]

/-- Interface lookup depends on the slots only, not on the wiring: it finds the first layer of the class
    among all members in order, provided layers of that class expose an interface (a group whose
    lookup yields `None` is skipped, a single layer's `None` is returned). -/
theorem getInterface_slots (B : Nat → LayerB) (c : Nat) (insts : List Inst)
    (h : ∀ l ∈ (insts.map Inst.slot).flatMap members, (B l).cls = c → (B l).iface ≠ none) :
    getInterface B c insts =
      (((insts.map Inst.slot).flatMap members).find? (fun l => (B l).cls = c)).bind (fun l => (B l).iface) := by
  induction insts with
  | nil => rfl
  | cons inst rest ih =>
    simp only [List.map_cons, List.flatMap_cons, List.mem_append] at h
    have h2 := ih fun l hl => h l (Or.inr hl)
    simp only [getInterface, List.map_cons, List.flatMap_cons, List.find?_append]
    cases hs : inst.slot with
    | single l =>
      by_cases hl : (B l).cls = c
      · simp [members, hl]
      · simp [members, hl, h2]
    | par ls =>
      simp only [members, h2, parInterface_spec]
      cases hf : ls.find? (fun l => (B l).cls = c) with
      | none => rfl
      | some l =>
        have hne := h l (Or.inl (by rw [hs]; exact List.mem_of_find?_eq_some hf)) (by simpa using List.find?_some hf)
        obtain ⟨v, hv⟩ := Option.ne_none_iff_exists'.mp hne
        simp [hv]

theorem builderRun_foldl (acc : List Slot) (ops : List BuilderOp) :
    ops.foldl builderStep acc = specBuilder acc ops := by
  induction ops generalizing acc with
  | nil => rfl
  | cons o r ih => cases o <;> exact ih _

theorem builderRun_spec (ops : List BuilderOp) : builderRun ops = specBuilder [] ops :=
  builderRun_foldl [] ops

end Yow.Stack
