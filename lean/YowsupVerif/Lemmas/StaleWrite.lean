/-
  Model/StaleWrite.lean with the check and the write under the stream lock: every frame on the wire was encrypted for the
  connection it is written to, whatever the schedule.  The invariant (`Inv`) says that the wire is clean and where each thread
  is in its program (`Shape`); its one substantial clause: a thread about to write whose check succeeded works with the current
  session.  It survives the other threads' steps because such a thread holds the lock, and the swap takes the lock too.
-/
import YowsupVerif.Model.StaleWrite
import YowsupVerif.Lemmas.Threads
namespace Yow.Stale

/-- the remaining whole stanzas of a sender -/
def rest (n : Nat) : List Op := (List.replicate n (sendProgram { atomic := true })).flatten

theorem rest_zero : rest 0 = [] := rfl

theorem rest_succ (n : Nat) : rest (n + 1) = .enter :: .lock :: .check :: .write :: .unlock :: rest n := by
  simp [rest, List.replicate_succ, sendProgram]

/-- where thread `t` is in its program, given the current connection `cur` and whether `t` holds the lock -/
inductive Shape (cur : Nat) : Bool → Thread → Prop
  | idle (n : Nat) (t : Thread) : t.ops = rest n → Shape cur false t
  | wantLock (n : Nat) (t : Thread) : t.ops = .lock :: .check :: .write :: .unlock :: rest n → Shape cur false t
  | chk (n : Nat) (t : Thread) : t.ops = .check :: .write :: .unlock :: rest n → Shape cur true t
  | wr (n : Nat) (t : Thread) : t.ops = .write :: .unlock :: rest n → (t.ok = true → t.sess = cur) → Shape cur true t
  | unl (n : Nat) (t : Thread) : t.ops = .unlock :: rest n → Shape cur true t
  -- the thread that replaces the connection: waiting for the lock, holding it
  | sw0 (t : Thread) : t.ops = [.lock, .swap, .unlock] → Shape cur false t
  | sw1 (t : Thread) : t.ops = [.swap, .unlock] → Shape cur true t

theorem Shape.free {c c' : Nat} {t : Thread} (h : Shape c false t) : Shape c' false t := by
  cases h with
  | idle n _ h => exact .idle n _ h
  | wantLock n _ h => exact .wantLock n _ h
  | sw0 _ h => exact .sw0 _ h

structure Inv (s : St) : Prop where
  clean : Clean s.wire
  shape : ∀ i t, s.threads[i]? = some t → Shape s.cur (decide (s.lock = some i)) t

theorem inv_update (s : St) (i : Nat) {t' : Thread} {c' : Nat} {l' : Option Nat} {w' : List (Nat × Nat)} {b : Bool}
    (hw : Clean w') (hb : decide (l' = some i) = b) (hi : Shape c' b t')
    (ho : ∀ k tk, k ≠ i → s.threads[k]? = some tk → Shape c' (decide (l' = some k)) tk) :
    Inv { threads := s.threads.set i t', cur := c', lock := l', wire := w' } :=
  ⟨hw, forall_getElem?_set (hb ▸ hi) ho⟩

theorem Inv.others_free {s : St} (h : Inv s) {i : Nat} (hl : ∀ k, s.lock = some k → k = i) {c' : Nat} {l' : Option Nat}
    (hl' : ∀ k, l' = some k → k = i) (k : Nat) (tk : Thread) (hk : k ≠ i) (hget : s.threads[k]? = some tk) :
    Shape c' (decide (l' = some k)) tk := by
  have := h.shape k tk hget
  rw [decide_eq_false fun e => hk (hl k e)] at this
  rw [decide_eq_false fun e => hk (hl' k e)]
  exact this.free

theorem Inv.acquire {s : St} (h : Inv s) {i : Nat} {t' : Thread} (ht : Shape s.cur true t') :
    Inv (if s.lock.isNone then { setThread s i t' with lock := some i } else s) := by
  by_cases hn : s.lock.isNone = true
  · have hl : s.lock = none := Option.isNone_iff_eq_none.mp hn
    rw [if_pos hn]
    exact inv_update s i h.clean (decide_eq_true rfl) ht
      (h.others_free (fun _ e => nomatch hl.symm.trans e) fun _ e => (Option.some.inj e).symm)
  · rw [if_neg hn]; exact h

theorem clean_snoc {w : List (Nat × Nat)} {a b : Nat} (hw : Clean w) (h : a = b) : Clean (w ++ [(a, b)]) := by
  intro p hp
  simp only [List.mem_append, List.mem_singleton] at hp
  rcases hp with hp | hp
  · exact hw p hp
  · subst hp; exact h

theorem inv_step (s : St) (i : Nat) (h : Inv s) : Inv (step s i) := by
  have hw := h.clean
  unfold step
  split
  · exact h
  · rename_i t hget
    have ht := h.shape i t hget
    have same := fun k tk (_ : k ≠ i) hk => h.shape k tk hk
    have mine : ∀ k, some i = some k → k = i := fun _ e => (Option.some.inj e).symm
    generalize hb : decide (s.lock = some i) = b at ht
    cases ht with
    | idle n _ hops =>
      cases n with
      | zero => simp only [hops, rest_zero]; exact h
      | succ n =>
        simp only [hops, rest_succ, setThread]
        exact inv_update s i hw hb (.wantLock n _ rfl) same
    | wantLock n _ hops =>
      simp only [hops]
      exact h.acquire (.chk n _ rfl)
    | chk n _ hops =>
      -- the check, made under the lock: a positive result says that the thread's session is the current one
      simp only [hops, setThread]
      exact inv_update s i hw hb (.wr n _ rfl of_decide_eq_true) same
    | wr n _ hops hok =>
      -- a frame is written only after a positive check, so it is a frame of the current connection
      simp only [hops, setThread]
      split
      · rename_i hokt
        exact inv_update s i (clean_snoc hw (hok hokt).symm) hb (.unl n _ rfl) same
      · exact inv_update s i hw hb (.unl n _ rfl) same
    | unl n _ hops =>
      have hl : s.lock = some i := of_decide_eq_true hb
      simp only [hops, setThread]
      exact inv_update s i hw (decide_eq_false nofun) (.idle n _ rfl) (h.others_free (fun _ e => mine _ (hl.symm.trans e)) nofun)
    | sw0 _ hops =>
      simp only [hops]
      exact h.acquire (.sw1 _ rfl)
    | sw1 _ hops =>
      -- the current connection changes; the swapping thread holds the lock, so every other thread is outside (`Shape.free`)
      have hl : s.lock = some i := of_decide_eq_true hb
      simp only [hops, setThread]
      exact inv_update s i hw hb (.unl 0 _ rfl) (hl ▸ h.others_free (fun _ e => mine _ (hl.symm.trans e)) mine)

theorem inv_init (work : List (Option Nat)) : Inv (init { atomic := true } work) := by
  refine ⟨(fun p hp => nomatch hp), ?_⟩
  intro i t hget
  simp only [init, List.getElem?_map] at hget
  show Shape 0 false t
  cases hw : work[i]? with
  | none => simp [hw] at hget
  | some w =>
    simp only [hw, Option.map_some, Option.some.injEq] at hget
    subst hget
    cases w with
    | none => exact .sw0 _ rfl
    | some n => exact .idle n _ rfl

theorem inv_run {s : St} (h : Inv s) : ∀ sched, Inv (run s sched)
  | [] => h
  | i :: is => inv_run (inv_step s i h) is

end Yow.Stale
