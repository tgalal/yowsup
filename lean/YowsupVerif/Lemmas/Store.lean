/-
  Lemmas about Model/Store.lean.  A transaction started outside one commits `applyAll` of its body (`run_tx`), and before its
  COMMIT nothing reaches the database file (crash atomicity).  Each clause of `applyDml` writes one record of the abstract map
  (table × key ↦ value, flag) and keeps the key discipline (`Writes`); what an allowed shape of a store operation does is the
  composition of its statements' writes.
-/
import YowsupVerif.Model.Store
namespace Yow.Store

def Dml (s : Sk) : Bool := s != .begin && s != .commit

/-- the body of a transaction, statement by statement on the working tables; `none` as soon as one raises -/
def applyAll (args : List (Nat × Nat)) : List Sk → List Table → Option (List Table)
  | [], ts => some ts
  | s :: rest, ts => (applyDml s args ts).bind (applyAll args rest)

theorem applyAll_cons {args : List (Nat × Nat)} {s : Sk} {ts ts' : List Table} (h : applyDml s args ts = some ts')
    (rest : List Sk) : applyAll args (s :: rest) ts = applyAll args rest ts' := by
  rw [applyAll, h]; rfl

theorem exec_inTx (args : List (Nat × Nat)) (s : Sk) (hs : Dml s = true) (c w : List Table) :
    exec args ⟨c, w, true⟩ s = (applyDml s args w).map fun w' => ⟨c, w', true⟩ := by
  cases s with
  | «begin» | commit => exact absurd hs (by decide)
  | _ => rfl

theorem exec_autocommit (args : List (Nat × Nat)) (s : Sk) (hs : Dml s = true) (c w : List Table) :
    exec args ⟨c, w, false⟩ s = (applyDml s args c).map fun c' => ⟨c', c', false⟩ := by
  cases s with
  | «begin» | commit => exact absurd hs (by decide)
  | _ => rfl

theorem run_body_committed (args : List (Nat × Nat)) (body : List Sk) (hb : body.all Dml = true) (c w : List Table) :
    (run args ⟨c, w, true⟩ body).committed = c := by
  induction body generalizing w with
  | nil => rfl
  | cons s rest ih =>
    rw [List.all_cons, Bool.and_eq_true] at hb
    rw [run, exec_inTx args s hb.1]
    cases applyDml s args w with
    | none => rfl
    | some w' => exact ih hb.2 w'

theorem run_body (args : List (Nat × Nat)) (body rest : List Sk) (hb : body.all Dml = true) (c w w' : List Table)
    (h : applyAll args body w = some w') :
    run args ⟨c, w, true⟩ (body ++ rest) = run args ⟨c, w', true⟩ rest := by
  induction body generalizing w with
  | nil => cases h; rfl
  | cons s body ih =>
    rw [List.all_cons, Bool.and_eq_true] at hb
    rw [List.cons_append, run, exec_inTx args s hb.1]
    cases hs : applyDml s args w with
    | none => rw [applyAll, hs] at h; cases h
    | some w1 => rw [applyAll_cons hs] at h; exact ih hb.2 w1 h

theorem run_tx (args : List (Nat × Nat)) (body : List Sk) (hb : body.all Dml = true) (db : Db) (hdb : db.inTx = false)
    (w : List Table) (h : applyAll args body db.committed = some w) :
    run args db (.begin :: (body ++ [.commit])) = ⟨w, w, false⟩ := by
  obtain ⟨c, w0, i⟩ := db
  cases hdb
  show run args ⟨c, c, true⟩ (body ++ [.commit]) = _
  rw [run_body args body [.commit] hb c c w h]
  rfl

theorem singleTx_shape (sk : List Sk) (h : SingleTx sk = true) :
    ∃ body, sk = .begin :: (body ++ [.commit]) ∧ body.all Dml = true := by
  cases sk with
  | nil => cases h
  | cons s rest =>
    cases s with
    | «begin» =>
      rw [SingleTx] at h
      cases hr : rest.reverse with
      | nil => rw [hr] at h; cases h
      | cons c bodyRev =>
        rw [hr] at h
        cases c with
        | commit =>
          exact ⟨bodyRev.reverse, by rw [← List.reverse_reverse rest, hr, List.reverse_cons],
            by rw [List.all_reverse]; exact h⟩
        | _ => cases h
    | _ => cases h

theorem crash_singleTx_proper (sk : List Sk) (h : SingleTx sk = true) (args : List (Nat × Nat)) (db : Db)
    (hdb : db.inTx = false) (p : List Sk) (hp : p <+: sk) (hne : p ≠ sk) :
    (crash (run args db p)).committed = db.committed := by
  obtain ⟨body, rfl, hbody⟩ := singleTx_shape sk h
  show (run args db p).committed = db.committed
  cases p with
  | nil => rfl
  | cons s q =>
    rw [List.cons_prefix_cons] at hp
    obtain ⟨rfl, hq⟩ := hp
    obtain ⟨r, rfl⟩ : q <+: body := by
      rw [List.prefix_concat_iff] at hq
      rcases hq with hq | hq
      · exact absurd (by rw [hq]) hne
      · exact hq
    rw [List.all_append, Bool.and_eq_true] at hbody
    obtain ⟨c, w, i⟩ := db
    cases hdb
    exact run_body_committed args q hbody.1 c c

theorem crash_singleTx (sk : List Sk) (h : SingleTx sk = true) (args : List (Nat × Nat)) (db : Db)
    (hdb : db.inTx = false) (p : List Sk) (hp : p <+: sk) :
    (crash (run args db p)).committed = db.committed ∨
    (crash (run args db p)).committed = (run args db sk).committed := by
  by_cases hne : p = sk
  · subst hne; exact Or.inr rfl
  · exact Or.inl (crash_singleTx_proper sk h args db hdb p hp hne)

theorem allowed_singleTx (kd : Kind) (sk : List Sk) (h : sk ∈ allowed kd) : SingleTx sk = true :=
  List.all_eq_true.1 (show (allowed kd).all SingleTx = true by cases kd <;> rfl) sk h

def lookupIn (tb : Table) (k : Nat) : Option (Nat × Bool) :=
  (tb.find? (fun r => r.key == k)).map (fun r => (r.val, r.flag))

theorem lookup_eq (ts : List Table) (t k : Nat) : lookup ts t k = lookupIn (tbl ts t) k := rfl

theorem tbl_set_self {ts : List Table} {t : Nat} {x : Table} (h : t < ts.length) :
    tbl (ts.set t x) t = x := by
  simp [tbl, h]

theorem tbl_set_ne {ts : List Table} {t t' : Nat} {x : Table} (h : t' ≠ t) :
    tbl (ts.set t x) t' = tbl ts t' := by
  simp [tbl, List.getD, List.getElem?_set_ne (Ne.symm h)]

theorem lookupIn_filter_self (tb : Table) (k : Nat) : lookupIn (tb.filter (fun r => r.key != k)) k = none := by
  simp [lookupIn, List.find?_filter, List.find?_eq_none]

theorem lookupIn_filter_ne {tb : Table} {k k' : Nat} (h : k' ≠ k) :
    lookupIn (tb.filter (fun r => r.key != k)) k' = lookupIn tb k' := by
  simp only [lookupIn, List.find?_filter]
  congr 2
  funext r
  by_cases h' : r.key = k' <;> simp [h', h]

theorem lookupIn_append_self {tb : Table} {k v : Nat} {f : Bool} (h : lookupIn tb k = none) :
    lookupIn (tb ++ [⟨k, v, f⟩]) k = some (v, f) := by
  simp only [lookupIn, Option.map_eq_none_iff] at h
  simp [lookupIn, List.find?_append, h]

theorem lookupIn_append_ne {tb : Table} {k k' v : Nat} {f : Bool} (h : k' ≠ k) :
    lookupIn (tb ++ [⟨k, v, f⟩]) k' = lookupIn tb k' := by
  simp [lookupIn, List.find?_append, Ne.symm h]

theorem hasKey_false_iff {tb : Table} {k : Nat} : hasKey tb k = false ↔ lookupIn tb k = none := by
  simp [hasKey, lookupIn, List.find?_eq_none]

theorem nodup_filter {tb : Table} (p : Row → Bool) (h : (tb.map Row.key).Nodup) :
    ((tb.filter p).map Row.key).Nodup :=
  List.Nodup.sublist (List.Sublist.map _ List.filter_sublist) h

theorem nodup_append_single {tb : Table} {k v : Nat} {f : Bool} (h : (tb.map Row.key).Nodup)
    (hk : lookupIn tb k = none) : ((tb ++ [Row.mk k v f]).map Row.key).Nodup := by
  simp only [lookupIn, Option.map_eq_none_iff, List.find?_eq_none] at hk
  rw [List.map_append, List.nodup_append]
  refine ⟨h, by simp, fun a ha b hb e => ?_⟩
  obtain ⟨r, hr, rfl⟩ := List.mem_map.1 ha
  cases List.mem_singleton.1 hb
  exact hk r hr (by simpa using e)

/-! An UPDATE maps `fun r => if r.key == k then g r else r` over the table, where `g` keeps the key and acts on (value, flag) as `gp`. -/

theorem upd_key (g : Row → Row) (hg : ∀ r, (g r).key = r.key) (k : Nat) (r : Row) :
    (if r.key == k then g r else r).key = r.key := by
  rw [apply_ite Row.key, hg, ite_self]

theorem map_upd_keys (g : Row → Row) (hg : ∀ r, (g r).key = r.key) (tb : Table) (k : Nat) :
    (tb.map fun r => if r.key == k then g r else r).map Row.key = tb.map Row.key := by
  rw [List.map_map]
  exact List.map_congr_left fun r _ => upd_key g hg k r

theorem lookupIn_map_upd (g : Row → Row) (gp : Nat × Bool → Nat × Bool) (hg : ∀ r, (g r).key = r.key)
    (hgp : ∀ r, ((g r).val, (g r).flag) = gp (r.val, r.flag)) (tb : Table) (k k' : Nat) :
    lookupIn (tb.map fun r => if r.key == k then g r else r) k' = if k' = k then (lookupIn tb k').map gp else lookupIn tb k' := by
  induction tb with
  | nil => split <;> rfl
  | cons r rest ih =>
    simp only [lookupIn, List.map_cons, List.find?_cons, upd_key g hg] at ih ⊢
    cases h : r.key == k'
    · exact ih
    · -- the first row has the key looked up: it is updated iff that key is `k`
      have h := beq_iff_eq.1 h
      by_cases h2 : k' = k
      · simp only [h, h2, beq_self_eq_true, if_true, Option.map_some, hgp]
      · simp only [h, h2, beq_iff_eq, if_false, Option.map_some]

theorem lookup_set {ts : List Table} {t : Nat} {x : Table} (ht : t < ts.length) (t' k : Nat) :
    lookup (ts.set t x) t' k = if t' = t then lookupIn x k else lookup ts t' k := by
  by_cases h : t' = t
  · rw [if_pos h, h, lookup_eq, tbl_set_self ht]
  · rw [if_neg h, lookup_eq, tbl_set_ne h, lookup_eq]

/-- `ts'` has the tables of `ts`, the key discipline, and its abstract map except for the record under (t, k), which is `f` of the old one -/
structure Writes (t k : Nat) (f : Option (Nat × Bool) → Option (Nat × Bool)) (ts ts' : List Table) : Prop where
  length : ts'.length = ts.length
  unique : UniqueKeys ts'
  self : lookup ts' t k = f (lookup ts t k)
  other : ∀ t' k', (t', k') ≠ (t, k) → lookup ts' t' k' = lookup ts t' k'

theorem Writes.trans {t k : Nat} {f g : Option (Nat × Bool) → Option (Nat × Bool)} {ts ts' ts'' : List Table}
    (h : Writes t k f ts ts') (h' : Writes t k g ts' ts'') : Writes t k (fun o => g (f o)) ts ts'' :=
  ⟨h'.length.trans h.length, h'.unique, h'.self.trans (congrArg g h.self),
    fun t' k' hne => (h'.other t' k' hne).trans (h.other t' k' hne)⟩

theorem Writes.twice {t k0 k1 : Nat} {f : Option (Nat × Bool) → Option (Nat × Bool)} {ts ts' ts'' : List Table}
    (hf : ∀ o, f (f o) = f o) (h0 : Writes t k0 f ts ts') (h1 : Writes t k1 f ts' ts'') :
    UniqueKeys ts'' ∧ (∀ k, k = k0 ∨ k = k1 → lookup ts'' t k = f (lookup ts t k)) ∧
    ∀ t' k', (t' ≠ t ∨ (k' ≠ k0 ∧ k' ≠ k1)) → lookup ts'' t' k' = lookup ts t' k' := by
  have hne : ∀ {t' k' k : Nat}, t' ≠ t ∨ k' ≠ k → (t', k') ≠ (t, k) :=
    fun h e => h.elim (· (congrArg Prod.fst e)) (· (congrArg Prod.snd e))
  refine ⟨h1.unique, fun k hk => ?_, fun t' k' h => ?_⟩
  · by_cases e : k = k1
    · rw [e, h1.self]
      by_cases e0 : k1 = k0
      · rw [e0, h0.self, hf]
      · rw [h0.other t k1 (hne (.inr e0))]
    · rw [h1.other t k (hne (.inr e)), hk.resolve_right e, h0.self]
  · rw [h1.other t' k' (hne (h.imp_right (·.2))), h0.other t' k' (hne (h.imp_right (·.1)))]

theorem table_update (ts : List Table) (t k : Nat) (x : Table) (f : Option (Nat × Bool) → Option (Nat × Bool))
    (ht : t < ts.length) (hu : UniqueKeys ts) (hx : (x.map Row.key).Nodup)
    (hself : lookupIn x k = f (lookupIn (tbl ts t) k)) (hoth : ∀ k', k' ≠ k → lookupIn x k' = lookupIn (tbl ts t) k') :
    Writes t k f ts (ts.set t x) := by
  refine ⟨List.length_set .., fun t' => ?_, by rw [lookup_set ht, if_pos rfl]; exact hself, fun t' k' hne => ?_⟩
  · by_cases h : t' = t
    · rw [h, tbl_set_self ht]; exact hx
    · rw [tbl_set_ne h]; exact hu t'
  · rw [lookup_set ht]
    by_cases h : t' = t
    · rw [if_pos h, h]; exact hoth k' fun hk => hne (by rw [h, hk])
    · rw [if_neg h]

theorem del_writes {ts : List Table} {t : Nat} (ht : t < ts.length) (hu : UniqueKeys ts) (k : Nat) :
    Writes t k (fun _ => none) ts (ts.set t ((tbl ts t).filter fun r => r.key != k)) :=
  table_update ts t k _ _ ht hu (nodup_filter _ (hu t)) (lookupIn_filter_self _ _) fun _ hk => lookupIn_filter_ne hk

theorem insRepl_writes {ts : List Table} {t : Nat} (ht : t < ts.length) (hu : UniqueKeys ts) (k v : Nat) :
    Writes t k (fun _ => some (v, false)) ts (ts.set t ((tbl ts t).filter (fun r => r.key != k) ++ [⟨k, v, false⟩])) :=
  table_update ts t k _ _ ht hu (nodup_append_single (nodup_filter _ (hu t)) (lookupIn_filter_self _ _))
    (lookupIn_append_self (lookupIn_filter_self _ _)) fun _ hk => by rw [lookupIn_append_ne hk, lookupIn_filter_ne hk]

theorem ins_writes {ts : List Table} {t : Nat} (ht : t < ts.length) (hu : UniqueKeys ts) {k : Nat} (hnew : lookup ts t k = none)
    (v : Nat) : Writes t k (fun _ => some (v, false)) ts (ts.set t (tbl ts t ++ [⟨k, v, false⟩])) :=
  table_update ts t k _ _ ht hu (nodup_append_single (hu t) hnew) (lookupIn_append_self hnew)
    fun _ hk => lookupIn_append_ne hk

theorem applyDml_ins (args : List (Nat × Nat)) (a t : Nat) (ts : List Table) :
    applyDml (.ins t a) args ts = if lookup ts t (args.getD a (0, 0)).1 = none
      then some (ts.set t (tbl ts t ++ [⟨(args.getD a (0, 0)).1, (args.getD a (0, 0)).2, false⟩])) else none := by
  by_cases h : lookup ts t (args.getD a (0, 0)).1 = none
  · rw [if_pos h]; exact if_neg (Bool.eq_false_iff.1 (hasKey_false_iff.2 h))
  · rw [if_neg h]; exact if_pos (Bool.of_not_eq_false (mt hasKey_false_iff.1 h))

theorem upd_writes {ts : List Table} {t : Nat} (ht : t < ts.length) (hu : UniqueKeys ts) (g : Row → Row)
    (gp : Nat × Bool → Nat × Bool) (hg : ∀ r, (g r).key = r.key) (hgp : ∀ r, ((g r).val, (g r).flag) = gp (r.val, r.flag)) (k : Nat) :
    Writes t k (Option.map gp) ts (ts.set t ((tbl ts t).map fun r => if r.key == k then g r else r)) :=
  table_update ts t k _ _ ht hu (by rw [map_upd_keys g hg]; exact hu t)
    ((lookupIn_map_upd g gp hg hgp _ k k).trans (if_pos rfl)) fun k' hk => (lookupIn_map_upd g gp hg hgp _ k k').trans (if_neg hk)

theorem replace_effect (t k v : Nat) (sk : List Sk) (h : sk ∈ allowed (.replace t)) (db : Db) (hdb : db.inTx = false)
    (ht : t < db.committed.length) (hu : UniqueKeys db.committed) :
    ∃ w, run [(k, v)] db sk = ⟨w, w, false⟩ ∧ Writes t k (fun _ => some (v, false)) db.committed w := by
  rcases List.mem_cons.1 h with rfl | h
  · -- DELETE, then INSERT of a key that is new now
    have W1 := del_writes ht hu k
    have W2 := ins_writes (W1.length ▸ ht) W1.unique W1.self v
    refine ⟨_, run_tx _ [.del t 0, .ins t 0] rfl db hdb _ ?_, W1.trans W2⟩
    exact (applyAll_cons rfl _).trans ((applyAll_cons ((applyDml_ins [(k, v)] 0 t _).trans (if_pos W1.self)) _).trans rfl)
  · cases List.mem_singleton.1 h
    exact ⟨_, run_tx _ [.insRepl t 0] rfl db hdb _ rfl, insRepl_writes ht hu k v⟩

theorem insertNew_effect (t k v : Nat) (sk : List Sk) (h : sk ∈ allowed (.insertNew t)) (db : Db) (hdb : db.inTx = false)
    (ht : t < db.committed.length) (hu : UniqueKeys db.committed) (hnew : lookup db.committed t k = none) :
    ∃ w, run [(k, v)] db sk = ⟨w, w, false⟩ ∧ Writes t k (fun _ => some (v, false)) db.committed w := by
  cases List.mem_singleton.1 h
  exact ⟨_, run_tx _ [.ins t 0] rfl db hdb _ ((applyAll_cons ((applyDml_ins [(k, v)] 0 t db.committed).trans (if_pos hnew)) _).trans rfl),
    ins_writes ht hu hnew v⟩

theorem remove_effect (t k v : Nat) (sk : List Sk) (h : sk ∈ allowed (.remove t)) (db : Db) (hdb : db.inTx = false)
    (ht : t < db.committed.length) (hu : UniqueKeys db.committed) :
    ∃ w, run [(k, v)] db sk = ⟨w, w, false⟩ ∧ Writes t k (fun _ => none) db.committed w := by
  cases List.mem_singleton.1 h
  exact ⟨_, run_tx _ [.del t 0] rfl db hdb _ rfl, del_writes ht hu k⟩

theorem retire_effect (t k v : Nat) (sk : List Sk) (h : sk ∈ allowed (.retire t)) (db : Db) (hdb : db.inTx = false)
    (ht : t < db.committed.length) (hu : UniqueKeys db.committed) :
    ∃ w, run [(k, v)] db sk = ⟨w, w, false⟩ ∧ Writes t k (Option.map fun old => (v, old.2)) db.committed w := by
  cases List.mem_singleton.1 h
  exact ⟨_, run_tx _ [.updVal t 0] rfl db hdb _ rfl,
    upd_writes ht hu (fun r => { r with val := v }) _ (fun _ => rfl) (fun _ => rfl) k⟩

/-- markSent: two flag UPDATEs, the second on the tables the first one wrote; `k0 = k1` is allowed -/
theorem markSent_effect (t k0 k1 : Nat) (sk : List Sk) (h : sk ∈ allowed (.markSent t)) (db : Db) (hdb : db.inTx = false)
    (ht : t < db.committed.length) (hu : UniqueKeys db.committed) :
    ∃ w, run [(k0, 0), (k1, 0)] db sk = ⟨w, w, false⟩ ∧ UniqueKeys w ∧
      (∀ k, k = k0 ∨ k = k1 → lookup w t k = (lookup db.committed t k).map (fun x => (x.1, true))) ∧
      ∀ t' k', (t' ≠ t ∨ (k' ≠ k0 ∧ k' ≠ k1)) → lookup w t' k' = lookup db.committed t' k' := by
  cases List.mem_singleton.1 h
  have W1 := upd_writes ht hu (fun r => { r with flag := true }) (fun x => (x.1, true)) (fun _ => rfl) (fun _ => rfl) k0
  have W2 := upd_writes (W1.length ▸ ht) W1.unique (fun r => { r with flag := true }) (fun x => (x.1, true))
    (fun _ => rfl) (fun _ => rfl) k1
  exact ⟨_, run_tx _ [.updFlag t 0, .updFlag t 1] rfl db hdb _ rfl, W1.twice (fun o => by cases o <;> rfl) W2⟩

theorem effect_refines {args : List (Nat × Nat)} {sk : List Sk} {db : Db} {t k : Nat} {f : Option (Nat × Bool) → Option (Nat × Bool)}
    (h : ∃ w, run args db sk = ⟨w, w, false⟩ ∧ Writes t k f db.committed w) :
    (run args db sk).inTx = false ∧ UniqueKeys (run args db sk).committed ∧
    lookup (run args db sk).committed t k = f (lookup db.committed t k) ∧
    ∀ t' k', (t', k') ≠ (t, k) → lookup (run args db sk).committed t' k' = lookup db.committed t' k' := by
  obtain ⟨w, hr, W⟩ := h
  rw [hr]
  exact ⟨rfl, W.unique, W.self, W.other⟩

theorem empty_unique : UniqueKeys empty.committed := by
  intro t
  rcases t with _|_|_|_|_|t <;> exact List.nodup_nil

end Yow.Store
