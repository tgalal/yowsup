/-
  Lemmas about statement failures in Model/Store.lean: an operation that is rolled back when one of its statements fails leaves the
  connection as after a reopen; statements that spare a record (everything but a DELETE of its key) keep it present, through any later
  BEGIN / COMMIT, whether or not a transaction was left open.
-/
import YowsupVerif.Lemmas.Store
namespace Yow.Store

theorem view_eq_committed {db : Db} (h : db.inTx = false) : view db = db.committed := by
  rw [view, h]; rfl

theorem lt_of_lookup_isSome {ts : List Table} {t k : Nat} (h : (lookup ts t k).isSome = true) :
    t < ts.length :=
  Nat.lt_of_not_le fun hle => by
    -- a table beyond the list is empty
    have hn : tbl ts t = [] := by simp [tbl, List.getD, List.getElem?_eq_none hle]
    simp [lookup, hn] at h

theorem set_spares {ts : List Table} {t t' k : Nat} {x : Table}
    (hp : (lookup ts t k).isSome = true) (hx : t' = t → (lookupIn x k).isSome = true) :
    (lookup (ts.set t' x) t k).isSome = true := by
  by_cases h : t' = t
  · subst h
    rw [lookup_set (lt_of_lookup_isSome hp), if_pos rfl]
    exact hx rfl
  · rw [lookup_eq, tbl_set_ne (Ne.symm h), ← lookup_eq]
    exact hp

theorem lookupIn_append_isSome {tb l : Table} {k : Nat} (h : (lookupIn tb k).isSome = true) :
    (lookupIn (tb ++ l) k).isSome = true := by
  simp only [lookupIn, Option.isSome_map, List.find?_append] at h ⊢
  cases hf : List.find? (fun r => r.key == k) tb with
  | none => rw [hf] at h; simp at h
  | some r => simp

theorem lookupIn_map_upd_isSome (g : Row → Row) (gp : Nat × Bool → Nat × Bool) (hg : ∀ r, (g r).key = r.key)
    (hgp : ∀ r, ((g r).val, (g r).flag) = gp (r.val, r.flag)) {tb : Table} {k k' : Nat} (h : (lookupIn tb k').isSome = true) :
    (lookupIn (tb.map fun r => if r.key == k then g r else r) k').isSome = true := by
  rw [lookupIn_map_upd g gp hg hgp]
  split
  · rw [Option.isSome_map]; exact h
  · exact h

theorem applyDml_spares (args : List (Nat × Nat)) (t k : Nat) (s : Sk) {ts ts' : List Table}
    (he : applyDml s args ts = some ts') (hs : spares args t k s = true)
    (hp : (lookup ts t k).isSome = true) :
    (lookup ts' t k).isSome = true := by
  -- every statement writes one table; it is enough to look at the record in the table written
  have hp' : (lookupIn (tbl ts t) k).isSome = true := hp
  cases s with
  | «begin» | commit => cases he; exact hp
  | del t' a =>
    cases he
    refine set_spares hp fun h => ?_
    subst h
    have hk : k ≠ (args.getD a (0, 0)).1 := fun hk => by simp [spares, hk] at hs
    rw [lookupIn_filter_ne hk]
    exact hp'
  | ins t' a =>
    by_cases hk : hasKey (tbl ts t') (args.getD a (0, 0)).1 = true
    · cases (if_pos hk).symm.trans he
    · cases (if_neg hk).symm.trans he
      exact set_spares hp fun h => lookupIn_append_isSome (h ▸ hp')
  | insRepl t' a =>
    cases he
    refine set_spares hp fun h => ?_
    subst h
    by_cases hk : k = (args.getD a (0, 0)).1
    · rw [hk, lookupIn_append_self (lookupIn_filter_self _ _)]
      rfl
    · rw [lookupIn_append_ne hk, lookupIn_filter_ne hk]
      exact hp'
  | updFlag t' a =>
    cases he
    exact set_spares hp fun h =>
      lookupIn_map_upd_isSome (fun r => { r with flag := true }) (fun x => (x.1, true)) (fun _ => rfl) (fun _ => rfl) (h ▸ hp')
  | updVal t' a =>
    cases he
    exact set_spares hp fun h =>
      lookupIn_map_upd_isSome (fun r => { r with val := (args.getD a (0, 0)).2 }) (fun x => ((args.getD a (0, 0)).2, x.2))
        (fun _ => rfl) (fun _ => rfl) (h ▸ hp')

theorem runFault_rolled_back (sk : List Sk) (h : SingleTx sk = true) (args : List (Nat × Nat)) (db : Db)
    (hdb : db.inTx = false) (j : Nat) (hj : j < sk.length) :
    runFault true args db sk j = crash db := by
  -- the statements before the failing one are a proper prefix of the transaction: nothing of it is committed
  have hne : sk.take j ≠ sk := fun h' => Nat.ne_of_lt hj (by rw [← List.length_take_of_le (Nat.le_of_lt hj), h'])
  have hc : (run args db (sk.take j)).committed = db.committed :=
    crash_singleTx_proper sk h args db hdb (sk.take j) (List.take_prefix j sk) hne
  simp only [runFault, if_true, crash, hc]

theorem exec_view (args : List (Nat × Nat)) (db db' : Db) (s : Sk) (he : exec args db s = some db') :
    applyDml s args (view db) = some (view db') := by
  obtain ⟨c, w, i⟩ := db
  cases hs : Dml s with
  | false =>
    cases s with
    | «begin» | commit => cases he; cases i <;> rfl
    | _ => cases hs
  | true =>
    cases i
    · rw [exec_autocommit args s hs] at he
      obtain ⟨v, hv, rfl⟩ := Option.map_eq_some_iff.1 he
      exact hv
    · rw [exec_inTx args s hs] at he
      obtain ⟨v, hv, rfl⟩ := Option.map_eq_some_iff.1 he
      exact hv

theorem run_spares (args : List (Nat × Nat)) (t k : Nat) (l : List Sk) (hs : ∀ s ∈ l, spares args t k s = true) (db : Db)
    (hp : (lookup (view db) t k).isSome = true) :
    (lookup (view (run args db l)) t k).isSome = true := by
  induction l generalizing db with
  | nil => exact hp
  | cons s rest ih =>
    simp only [run]
    cases he : exec args db s with
    | none => exact hp
    | some db' =>
      exact ih (fun s' hs' => hs s' (List.mem_cons_of_mem _ hs')) db'
        (applyDml_spares args t k s (exec_view args db db' s he) (hs s List.mem_cons_self) hp)

theorem runOps_spares (t k : Nat) (ops : List (List (Nat × Nat) × List Sk))
    (hs : ∀ o ∈ ops, ∀ s ∈ o.2, spares o.1 t k s = true) (db : Db)
    (hp : (lookup (view db) t k).isSome = true) :
    (lookup (view (runOps db ops)) t k).isSome = true := by
  induction ops generalizing db with
  | nil => exact hp
  | cons o rest ih =>
    simp only [runOps]
    exact ih (fun o' ho' => hs o' (List.mem_cons_of_mem _ ho')) _
      (run_spares o.1 t k o.2 (hs o List.mem_cons_self) db hp)

theorem runOps_spares_committed (t k : Nat) (ops : List (List (Nat × Nat) × List Sk))
    (hs : ∀ o ∈ ops, ∀ s ∈ o.2, spares o.1 t k s = true) (db : Db)
    (hp : (lookup (view db) t k).isSome = true)
    (hout : (runOps db ops).inTx = false) :
    (lookup (runOps db ops).committed t k).isSome = true :=
  view_eq_committed hout ▸ runOps_spares t k ops hs db hp

end Yow.Store
