/-
  What the thread-interleaving models (Model/Conc.lean, Model/SendBuf.lean, Model/StaleWrite.lean) have in common: a step of
  thread `i` replaces entry `i` of the list of threads and leaves the other entries alone.
-/
namespace Yow

theorem forall_getElem?_set {α : Type _} {l : List α} {i : Nat} {a : α} {P : Nat → α → Prop}
    (hi : P i a) (ho : ∀ k b, k ≠ i → l[k]? = some b → P k b) :
    ∀ k b, (l.set i a)[k]? = some b → P k b := by
  intro k b hk
  by_cases hki : k = i
  · subst hki
    obtain ⟨_, rfl⟩ := List.getElem?_eq_some_iff.mp hk
    rw [List.getElem_set_self]; exact hi
  · rw [List.getElem?_set_ne (Ne.symm hki)] at hk
    exact ho k b hki hk

theorem set_ne_of_tail {α β : Type _} {l : List α} {i : Nat} {a b : α} {ops : α → List β} {op : β} {rest : List β}
    (h : l[i]? = some a) (ha : ops a = op :: rest) (hb : ops b = rest) : l.set i b ≠ l := by
  intro e
  have hi : i < l.length := (List.getElem?_eq_some_iff.mp h).1
  rw [← e, List.getElem?_set_self hi] at h
  cases h
  exact List.cons_ne_self op rest (ha.symm.trans hb)

theorem all_isEmpty_iff {α β : Type _} {l : List α} {f : α → List β} :
    l.all (fun a => (f a).isEmpty) = true ↔ ∀ (i : Nat) (a : α), l[i]? = some a → f a = [] := by
  simp only [List.all_eq_true, List.isEmpty_iff]
  constructor
  · intro h i a hi; exact h a (List.mem_of_getElem? hi)
  · intro h a ha
    obtain ⟨i, hi⟩ := List.mem_iff_getElem?.mp ha
    exact h i a hi

theorem exists_of_all_isEmpty_eq_false {α β : Type _} {l : List α} {f : α → List β}
    (h : l.all (fun a => (f a).isEmpty) = false) : ∃ (i : Nat) (a : α), l[i]? = some a ∧ f a ≠ [] := by
  obtain ⟨a, ha, hne⟩ := List.all_eq_false.mp h
  obtain ⟨i, hi⟩ := List.mem_iff_getElem?.mp ha
  exact ⟨i, a, hi, fun e => hne (by rw [e]; rfl)⟩

end Yow
