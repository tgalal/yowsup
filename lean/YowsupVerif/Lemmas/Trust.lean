/-
  Lemmas about Model/Trust.lean (contact identity pinning), for Props/C17.lean.  Under the good decision table a step is described
  once (`step_good_effect`): the state stays, has the option switched, or has `Adopted` an identity that the store trusts or that
  automatic trust lets through, and what goes out is on the session stored afterwards.  `Inv` in every reachable state and the
  pins' hold over histories with automatic trust off (`run_noauto`) are read off that description.
-/
import YowsupVerif.Model.Trust
namespace Yow.Trust

/-- a stored session was built for the pinned identity; and a contact whose record holds earlier session states has a pinned identity
    (an earlier state only ever appears when a session is replaced, and building a session pins its identity) -/
def Inv (s : St) : Prop :=
  (∀ c k, s.session c = some k → s.pinned c = some k) ∧ (∀ c, s.pinned c = none → s.archived c = [])

theorem Inv.session_pin {s : St} (h : Inv s) : ∀ c k, s.session c = some k → s.pinned c = some k := h.1

theorem Inv.archived_nil {s : St} (h : Inv s) : ∀ c, s.pinned c = none → s.archived c = [] := h.2

theorem inv_init : Inv init := ⟨nofun, fun _ _ => rfl⟩

@[simp] theorem good_trustUnknown : Cfg.good.trustUnknown = true := rfl
@[simp] theorem good_trustSame : Cfg.good.trustSame = true := rfl
@[simp] theorem good_trustOther : Cfg.good.trustOther = false := rfl
@[simp] theorem good_saveReplaces : Cfg.good.saveReplaces = true := rfl
@[simp] theorem good_rebuild : Cfg.good.rebuildAfterTrust = true := rfl
@[simp] theorem good_checksOld : Cfg.good.checksOldSessions = true := rfl

@[simp] theorem upd_same (f : Nat → Option Nat) (c : Nat) (v : Option Nat) : upd f c v c = v := if_pos rfl
theorem upd_other {f : Nat → Option Nat} {c c' : Nat} {v : Option Nat} (h : c' ≠ c) : upd f c v c' = f c' := if_neg h
theorem updL_other {f : Nat → List Nat} {c c' : Nat} {v : List Nat} (h : c' ≠ c) : updL f c v c' = f c' := if_neg h

theorem setSession_pinned (s : St) (c k : Nat) : (setSession s c k).pinned = s.pinned := by
  unfold setSession
  split
  · split <;> rfl
  · rfl

theorem setSession_auto (s : St) (c k : Nat) : (setSession s c k).autotrust = s.autotrust := by
  unfold setSession
  split
  · split <;> rfl
  · rfl

theorem setSession_session (s : St) (c k : Nat) : (setSession s c k).session = upd s.session c (some k) := by
  unfold setSession
  split
  · next j hj =>
    split
    · next hjk =>
      -- the session is for k already: storing it again changes nothing
      funext x
      by_cases hx : x = c
      · rw [hx, upd_same, hj, hjk]
      · rw [upd_other hx]
    · rfl
  · rfl

theorem setSession_archived_other (s : St) (c k c' : Nat) (h : c' ≠ c) : (setSession s c k).archived c' = s.archived c' := by
  unfold setSession
  split
  · split
    · rfl
    · exact updL_other h
  · exact updL_other h

theorem save_eq (cfg : Cfg) (s : St) (c k : Nat) : save cfg s c k = { s with pinned := (save cfg s c k).pinned } := by
  unfold save
  split
  · rfl
  · split <;> rfl

theorem save_session (cfg : Cfg) (s : St) (c k : Nat) : (save cfg s c k).session = s.session := by rw [save_eq]
theorem save_archived (cfg : Cfg) (s : St) (c k : Nat) : (save cfg s c k).archived = s.archived := by rw [save_eq]
theorem save_autotrust (cfg : Cfg) (s : St) (c k : Nat) : (save cfg s c k).autotrust = s.autotrust := by rw [save_eq]

theorem save_pinned_other (cfg : Cfg) (s : St) (c k c' : Nat) (h : c' ≠ c) : (save cfg s c k).pinned c' = s.pinned c' := by
  unfold save
  split
  · exact upd_other h
  · split
    · exact upd_other h
    · rfl

theorem save_good_pinned (s : St) (c k : Nat) : (save Cfg.good s c k).pinned = upd s.pinned c (some k) := by
  unfold save; split <;> rfl

theorem build_good_pinned (s : St) (c k : Nat) : (build Cfg.good s c k).pinned = upd s.pinned c (some k) := by
  rw [build, save_good_pinned, setSession_pinned]

theorem build_session (cfg : Cfg) (s : St) (c k : Nat) : (build cfg s c k).session = upd s.session c (some k) := by
  rw [build, save_session, setSession_session]

theorem isTrusted_good (s : St) (c k : Nat) :
    isTrusted Cfg.good s c k = true ↔ (s.pinned c = none ∨ s.pinned c = some k) := by
  unfold isTrusted
  cases hp : s.pinned c with
  | none => simp
  | some p => by_cases h : p = k <;> simp [h]

theorem eq_of_trusted_pinned {s : St} {c k p : Nat} (ht : isTrusted Cfg.good s c k = true) (hp : s.pinned c = some p) : k = p := by
  rcases (isTrusted_good s c k).1 ht with h | h <;> rw [hp] at h <;> cases h
  rfl

theorem not_trusted_of_pinned_ne {s : St} {c k p : Nat} (hp : s.pinned c = some p) (hk : k ≠ p) :
    isTrusted Cfg.good s c k = false :=
  Bool.eq_false_iff.2 fun ht => hk (eq_of_trusted_pinned ht hp)

theorem isTrusted_after_save (s : St) (c k : Nat) : isTrusted Cfg.good (save Cfg.good s c k) c k = true :=
  (isTrusted_good _ c k).2 (.inr (by rw [save_good_pinned, upd_same]))

structure SameAt (c : Nat) (s t : St) : Prop where
  pinned : t.pinned c = s.pinned c
  session : t.session c = s.session c
  archived : t.archived c = s.archived c

theorem SameAt.rfl {c : Nat} {s : St} : SameAt c s s := ⟨.refl _, .refl _, .refl _⟩

theorem SameAt.trans {c : Nat} {s t u : St} (h : SameAt c s t) (h' : SameAt c t u) : SameAt c s u :=
  ⟨h'.pinned.trans h.pinned, h'.session.trans h.session, h'.archived.trans h.archived⟩

theorem sameAt_setSession (s : St) (k : Nat) {c c' : Nat} (h : c' ≠ c) : SameAt c' s (setSession s c k) :=
  ⟨by rw [setSession_pinned], by rw [setSession_session, upd_other h], setSession_archived_other s c k c' h⟩

theorem sameAt_save (cfg : Cfg) (s : St) (k : Nat) {c c' : Nat} (h : c' ≠ c) : SameAt c' s (save cfg s c k) :=
  ⟨save_pinned_other cfg s c k c' h, by rw [save_session], by rw [save_archived]⟩

theorem sameAt_build (cfg : Cfg) (s : St) (k : Nat) {c c' : Nat} (h : c' ≠ c) : SameAt c' s (build cfg s c k) :=
  (sameAt_setSession s k h).trans (sameAt_save cfg _ k h)

theorem ite_elim {α : Sort _} {p : α → Prop} {b : Prop} [Decidable b] {x y : α} (hx : b → p x) (hy : ¬b → p y) :
    p (if b then x else y) := by
  split
  · exact hx ‹_›
  · exact hy ‹_›

theorem sameAt_ite {c : Nat} {s : St} {b : Prop} [Decidable b] {x y : St × List Out} (hx : SameAt c s x.1) (hy : SameAt c s y.1) :
    SameAt c s (if b then x else y).1 :=
  ite_elim (p := fun r : St × List Out => SameAt c s r.1) (fun _ => hx) (fun _ => hy)

/-- whichever branch is taken, the new state comes from `save`, `setSession` and `build` for the event's own contact -/
theorem step_frame (cfg : Cfg) (s : St) (e : Ev) (c : Nat) (h : e.about c = false) : SameAt c s (step cfg s e).1 := by
  cases e with
  | bundle c' k =>
    have hc : c ≠ c' := Ne.symm (beq_eq_false_iff_ne.1 h)
    have h1 := sameAt_save cfg s k hc
    exact sameAt_ite (sameAt_build cfg s k hc)
      (sameAt_ite (sameAt_ite (sameAt_ite (h1.trans (sameAt_build cfg _ k hc)) h1) h1) .rfl)
  | firstMsg c' k =>
    have hc : c ≠ c' := Ne.symm (beq_eq_false_iff_ne.1 h)
    have h1 := sameAt_save cfg s k hc
    exact sameAt_ite (sameAt_build cfg s k hc) (sameAt_ite (sameAt_ite (h1.trans (sameAt_build cfg _ k hc)) h1) .rfl)
  | msgIn c' k =>
    have hc : c ≠ c' := Ne.symm (beq_eq_false_iff_ne.1 h)
    have h1 := sameAt_save cfg s k hc
    exact sameAt_ite .rfl (sameAt_ite (sameAt_ite (sameAt_setSession s k hc)
      (sameAt_ite (sameAt_ite (h1.trans (sameAt_setSession _ k hc)) h1) .rfl)) .rfl)
  | encrypt c' => simp only [step]; split <;> exact .rfl
  | restart => exact .rfl
  | setAuto b => exact ⟨rfl, rfl, rfl⟩

structure Adopted (s t : St) (c k : Nat) : Prop where
  pinned : t.pinned c = some k
  session : t.session c = some k
  same : ∀ c', c' ≠ c → SameAt c' s t
  auto : t.autotrust = s.autotrust

theorem inv_of_adopted {s t : St} {c k : Nat} (h : Inv s) (ha : Adopted s t c k) : Inv t := by
  constructor
  · intro c' k' hs'
    by_cases hc : c' = c
    · subst hc; rw [ha.session] at hs'; rw [ha.pinned]; exact hs'
    · have f := ha.same c' hc
      rw [f.session] at hs'; rw [f.pinned]; exact h.session_pin c' k' hs'
  · intro c' hn
    by_cases hc : c' = c
    · subst hc; rw [ha.pinned] at hn; cases hn
    · have f := ha.same c' hc
      rw [f.pinned] at hn; rw [f.archived]; exact h.archived_nil c' hn

theorem adopted_build (s : St) (c k : Nat) : Adopted s (build Cfg.good s c k) c k :=
  ⟨by rw [build_good_pinned, upd_same], by rw [build_session, upd_same], fun _ hc => sameAt_build _ s k hc,
    (save_autotrust ..).trans (setSession_auto s c k)⟩

theorem adopted_setSession {s : St} {c k : Nat} (hp : s.pinned c = some k) : Adopted s (setSession s c k) c k :=
  ⟨by rw [setSession_pinned, hp], by rw [setSession_session, upd_same], fun _ hc => sameAt_setSession s k hc, setSession_auto s c k⟩

/-- the intermediate state (pin replaced, old session still stored) need not satisfy `Inv`: it is passed over -/
theorem adopted_of_save {s t : St} {c k : Nat} (h : Adopted (save Cfg.good s c k) t c k) : Adopted s t c k :=
  ⟨h.pinned, h.session, fun c' hc => (sameAt_save _ s k hc).trans (h.same c' hc), h.auto.trans (save_autotrust ..)⟩

/-- what may go out of a step from `s` to `t` -/
def Fine (s t : St) : Out → Prop
  | .delivered c k | .encryptedFor c k => t.session c = some k
  | .trusted _ _ => s.autotrust = true
  | _ => True

def Effect (s : St) (e : Ev) (r : St × List Out) : Prop :=
  (∀ o ∈ r.2, Fine s r.1 o) ∧
  (r.1 = s ∨ (∃ b, e = .setAuto b ∧ r.1 = { s with autotrust := b }) ∨
    ∃ c k, Adopted s r.1 c k ∧ (isTrusted Cfg.good s c k = true ∨ s.autotrust = true))

/-- the identity check shared by key bundles, first messages and messages on an earlier session state -/
theorem effect_check {s t1 t2 : St} {e : Ev} {c k : Nat} {o q : Out} (h1 : isTrusted Cfg.good s c k = true → Adopted s t1 c k)
    (h2 : Adopted s t2 c k) (ho : ∀ t, t.session c = some k → Fine s t o) (hq : Fine s s q) :
    Effect s e (if isTrusted Cfg.good s c k = true then (t1, [o]) else if s.autotrust = true then (t2, [.trusted c k, o]) else (s, [q])) := by
  refine ite_elim (fun ht => ?_) fun _ => ite_elim (fun ha => ?_) fun _ => ?_
  · exact ⟨List.forall_mem_singleton.2 (ho _ (h1 ht).session), .inr (.inr ⟨c, k, h1 ht, .inl ht⟩)⟩
  · exact ⟨List.forall_mem_cons.2 ⟨ha, List.forall_mem_singleton.2 (ho _ h2.session)⟩, .inr (.inr ⟨c, k, h2, .inr ha⟩)⟩
  · exact ⟨List.forall_mem_singleton.2 hq, .inl rfl⟩

theorem step_good_effect {s : St} (e : Ev) (hi : Inv s) : Effect s e (step Cfg.good s e) := by
  cases e with
  | bundle c k =>
    simp only [step, isTrusted_after_save, good_rebuild, if_true]
    exact effect_check (fun _ => adopted_build s c k) (adopted_of_save (adopted_build _ c k)) (fun _ _ => trivial) trivial
  | firstMsg c k =>
    simp only [step, isTrusted_after_save, if_true]
    exact effect_check (fun _ => adopted_build s c k) (adopted_of_save (adopted_build _ c k)) (fun _ h => h) trivial
  | msgIn c k =>
    simp only [step, good_checksOld, Bool.not_true, Bool.false_or, isTrusted_after_save, if_true]
    refine ite_elim (fun hs => ⟨List.forall_mem_singleton.2 hs, .inl rfl⟩) fun _ =>
      ite_elim (fun hk => ?_) fun _ => ⟨List.forall_mem_singleton.2 trivial, .inl rfl⟩
    refine effect_check (fun ht => adopted_setSession ?_)
      (adopted_of_save (adopted_setSession (by rw [save_good_pinned, upd_same]))) (fun _ h => h) trivial
    -- a contact with earlier session states has a pin, so the trusted identity is the pinned one
    exact ((isTrusted_good s c k).1 ht).resolve_left fun h0 => by rw [hi.archived_nil c h0] at hk; cases hk
  | encrypt c =>
    simp only [step]
    split
    · next k hs => exact ⟨List.forall_mem_singleton.2 hs, .inl rfl⟩
    · exact ⟨List.forall_mem_singleton.2 trivial, .inl rfl⟩
  | restart => exact ⟨nofun, .inl rfl⟩
  | setAuto b => exact ⟨nofun, .inr (.inl ⟨b, rfl, rfl⟩)⟩

theorem inv_step (s : St) (e : Ev) (h : Inv s) : Inv (step Cfg.good s e).1 := by
  rcases (step_good_effect e h).2 with ht | ⟨b, _, ht⟩ | ⟨c, k, ha, _⟩
  · rw [ht]; exact h
  · rw [ht]; exact h
  · exact inv_of_adopted h ha

theorem inv_run (s : St) (es : List Ev) (h : Inv s) : Inv (run Cfg.good s es).1 := by
  induction es generalizing s with
  | nil => exact h
  | cons e es ih => exact ih _ (inv_step s e h)

/-- an output that respects the pins of `s` -/
def Respects (s : St) : Out → Prop
  | .delivered c k | .encryptedFor c k => ∀ p, s.pinned c = some p → k = p
  | .trusted _ _ => False
  | _ => True

theorem Respects.mono {s s' : St} (h : ∀ c p, s.pinned c = some p → s'.pinned c = some p) {o : Out} (hr : Respects s' o) :
    Respects s o := by
  cases o with
  | delivered c k | encryptedFor c k => exact fun p hp => hr p (h c p hp)
  | _ => exact hr

theorem step_noauto_pins {s : St} (e : Ev) (hi : Inv s) (ha : s.autotrust = false) (hne : e ≠ .setAuto true) :
    (∀ c p, s.pinned c = some p → (step Cfg.good s e).1.pinned c = some p) ∧ (step Cfg.good s e).1.autotrust = false := by
  rcases (step_good_effect e hi).2 with ht | ⟨b, rfl, ht⟩ | ⟨c', k, had, hacc⟩
  · rw [ht]; exact ⟨fun _ _ hp => hp, ha⟩
  · rw [ht]
    cases b with
    | true => exact absurd rfl hne
    | false => exact ⟨fun _ _ hp => hp, rfl⟩
  · -- automatic trust is off, so the store trusted the identity: for a contact with a pin that is the pinned one
    have ht : isTrusted Cfg.good s c' k = true := hacc.resolve_right (by rw [ha]; nofun)
    refine ⟨fun c p hp => ?_, had.auto.trans ha⟩
    by_cases hc : c = c'
    · rw [hc, had.pinned, eq_of_trusted_pinned ht (hc ▸ hp)]
    · rw [(had.same c hc).pinned, hp]

theorem step_noauto_out {s : St} (e : Ev) (hi : Inv s) (ha : s.autotrust = false) (hne : e ≠ .setAuto true) :
    ∀ o ∈ (step Cfg.good s e).2, Respects s o := by
  intro o ho
  have hf := (step_good_effect e hi).1 o ho
  cases o with
  | delivered c k | encryptedFor c k =>
    intro p hp
    have := (inv_step s e hi).session_pin c k hf
    rw [(step_noauto_pins e hi ha hne).1 c p hp] at this
    exact (Option.some.inj this).symm
  | trusted => rw [show s.autotrust = true from hf] at ha; cases ha
  | _ => trivial

theorem noAutoOn_cons (e : Ev) (es : List Ev) (h : NoAutoOn (e :: es)) : e ≠ .setAuto true ∧ NoAutoOn es := by
  cases e with
  | setAuto b =>
    cases b with
    | true => exact h.elim
    | false => exact ⟨nofun, h⟩
  | _ => exact ⟨nofun, h⟩

theorem run_noauto (s : St) (es : List Ev) (hi : Inv s) (ha : s.autotrust = false) (hn : NoAutoOn es) :
    (∀ c p, s.pinned c = some p → (run Cfg.good s es).1.pinned c = some p) ∧ ∀ o ∈ (run Cfg.good s es).2, Respects s o := by
  induction es generalizing s with
  | nil => exact ⟨fun _ _ hp => hp, nofun⟩
  | cons e es ih =>
    obtain ⟨hne, hn'⟩ := noAutoOn_cons e es hn
    obtain ⟨h1, h2⟩ := step_noauto_pins e hi ha hne
    obtain ⟨i1, i2⟩ := ih _ (inv_step s e hi) h2 hn'
    exact ⟨fun c p hp => i1 c p (h1 c p hp), fun o ho =>
      (List.mem_append.1 ho).elim (step_noauto_out e hi ha hne o) fun ho' => (i2 o ho').mono h1⟩

end Yow.Trust
