/-
  C01  Stanza codec round-trip (helper lemmas: Lemmas/CoderEnc, Lemmas/CoderDec).
  The round trip is a corollary of the two halves of C02: what the encoder emits is a valid encoding
  (`writeNode_Enc`), and the decoder reads every valid encoding back to its tree (`nextTree_of_Enc`).
-/
import YowsupVerif.Lemmas.CoderDec
import YowsupVerif.Lemmas.CoderEnc
import YowsupVerif.Gen.TokenDict
namespace Yow.Coder

/-- Decoding what the encoder produced returns the same tree — for every dictionary of admissible
    size (the statement does not depend on the table's contents) and every well-formed tree, of any
    depth, width and content size below 2^31. -/
theorem C01_roundtrip (d : Dict) (hd : d.WF) (inflate : Bytes → Option Bytes) (n : Node) (hn : WFNode d n) :
    decodeFrame d inflate (encodeFrame d n) = .ok n :=
  decodeFrame_plain d inflate (writeNode_Enc d hd hn) rfl

/-- The encoder does not refuse a well-formed tree. -/
theorem C01_encoder_accepts (d : Dict) (n : Node) (hn : WFNode d n) : encodable d n = true :=
  encodable_of_WFNode d hn

/-- Siblings: a well-formed list of trees written back to back is read back one by one,
    whatever follows (this is what a ≥ 1 MiB payload followed by a sibling exercises). -/
theorem C01_roundtrip_siblings (d : Dict) (hd : d.WF) (ns : List Node) (hn : WFNodes d ns) (rest : Bytes)
    (fuel : Nat) (hf : (writeNodes d ns).length + 2 ≤ fuel) :
    readNodes d fuel ns.length (writeNodes d ns ++ rest) = .ok (ns, rest) :=
  readNodes_of_EncNodes d (writeNodes_EncNodes d hd hn) fuel hf rest

set_option maxRecDepth 8192 in
/-- The current source's dictionary has an admissible size (regenerated on every run). -/
theorem C01_waDict_WF : Gen.waDict.WF := by
  unfold Dict.WF Gen.waDict
  decide +kernel

/-- Round trip for the WhatsApp dictionary of the current source. -/
theorem C01_roundtrip_wa (inflate : Bytes → Option Bytes) (n : Node) (hn : WFNode Gen.waDict n) :
    decodeFrame Gen.waDict inflate (encodeFrame Gen.waDict n) = .ok n :=
  C01_roundtrip Gen.waDict C01_waDict_WF inflate n hn

/-- The marker tokens 1 and 2 (stream start / end) are unreadable as strings for every dictionary: this is why the encoder
    must never write a string as one of them (before fix 45f23bb it did, for the two reserved words) … -/
theorem C01_reserved_token_unreadable (d : Dict) (fuel : Nat) (data : Bytes) :
    readString d (fuel + 1) 1 data = .error .badToken ∧ readString d (fuel + 1) 2 data = .error .badToken := by
  constructor <;> simp [readString]

set_option maxRecDepth 8192 in
/-- … and with the dictionary of the current source the encoder's lookup finds no token for the two reserved words nor for the
    empty string, although the dictionary lists them at the marker indexes 1, 2 and 0. -/
theorem C01_reserved_words_not_tokens :
    Gen.waDict.getIndex [120, 109, 108, 115, 116, 114, 101, 97, 109, 115, 116, 97, 114, 116] = some (1, false) ∧
    Gen.waDict.getIndex [120, 109, 108, 115, 116, 114, 101, 97, 109, 101, 110, 100] = some (2, false) ∧
    Gen.waDict.lookup [120, 109, 108, 115, 116, 114, 101, 97, 109, 115, 116, 97, 114, 116] = none ∧
    Gen.waDict.lookup [120, 109, 108, 115, 116, 114, 101, 97, 109, 101, 110, 100] = none ∧
    Gen.waDict.lookup [] = none := by
  decide +kernel

/-- The string domain is everything: with the dictionary of the current source EVERY string shorter than 2^31 — dictionary
    words, the reserved words, the empty string, digits, hex, JIDs with any number of '@' at any position — is `StrOK`. -/
theorem C01_every_string_ok (s : Str) (h : s.length < 2147483648) : StrOK Gen.waDict s :=
  strOK_of_length Gen.waDict (by intro i sec; rw [C01_reserved_words_not_tokens.2.2.2.2]; simp) s h

/-- Hence a tree is well formed as soon as its sizes fit the format: strings and binary content shorter than 2^31, distinct
    attribute keys, content or children but not both, list sizes below 2^16. -/
theorem C01_wf_of_sizes (tag : Str) (attrs : List (Str × Str)) (data : Option Bytes) (ks : List Node)
    (ht : tag.length < 2147483648) (ha : ∀ kv ∈ attrs, kv.1.length < 2147483648 ∧ kv.2.length < 2147483648)
    (hk : keysNodup attrs) (hd : ∀ b, data = some b → ks = [] ∧ b.length < 2147483648)
    (hs : 2 + attrs.length * 2 < 65536) (hl : ks.length < 65536) (hks : WFNodes Gen.waDict ks) :
    WFNode Gen.waDict (.mk tag attrs data ks) :=
  WFNode.mk _ _ _ _ (C01_every_string_ok tag ht)
    ⟨fun kv hkv => ⟨C01_every_string_ok kv.1 (ha kv hkv).1, C01_every_string_ok kv.2 (ha kv hkv).2⟩, hk⟩ hd hs hl hks

/-- The reserved words as data: a stanza addressed to `xmlstreamstart@xmlstreamend`, with an empty attribute value
    and an attribute ending in '@', survives the codec. -/
theorem C01_reserved_words_roundtrip (inflate : Bytes → Option Bytes) :
    let n : Node := .mk [105, 113] [([116, 111], [120, 109, 108, 115, 116, 114, 101, 97, 109, 115, 116, 97, 114, 116, 64, 120, 109, 108, 115, 116, 114, 101, 97, 109, 101, 110, 100]),
                                    ([120], []), ([121], [97, 64])] none []
    decodeFrame Gen.waDict inflate (encodeFrame Gen.waDict n) = .ok n := by
  intro n
  refine C01_roundtrip_wa inflate n (C01_wf_of_sizes _ _ _ _ (by decide) ?_ (by unfold keysNodup; decide) (by intro b hb; cases hb) (by decide) (by decide) WFNodes.nil)
  intro kv hkv
  simp at hkv
  rcases hkv with rfl | rfl | rfl <;> decide

/- Non-vacuity: concrete trees satisfy `WFNode` — a ≥ 1 MiB payload followed by a sibling, and a
   node with 300 children (dictionary with one usable token `t` = index 3). -/
def exDict : Dict := ⟨[[], [1], [2], [116]], []⟩
def bigPayload : Bytes := List.replicate 1048576 7
theorem bigPayload_length : bigPayload.length = 1048576 := by
  unfold bigPayload; rw [List.length_replicate]
theorem exDict_t : StrOK exDict [116] :=
  StrOK.token [116] 3 false (by decide) (by decide)
theorem exAttrs : AttrsOK exDict [] := by
  refine ⟨?_, ?_⟩
  · intro kv h; cases h
  · unfold keysNodup; exact List.nodup_nil
example : WFNode exDict (.mk [116] [] none [.mk [116] [] (some bigPayload) [], .mk [116] [] none []]) := by
  refine WFNode.mk _ _ _ _ exDict_t exAttrs (by intro b hb; cases hb) (by decide) (by decide) ?_
  refine WFNodes.cons _ _ ?_ (WFNodes.cons _ _ ?_ WFNodes.nil)
  · refine WFNode.mk _ _ _ _ exDict_t exAttrs ?_ (by decide) (by decide) WFNodes.nil
    intro b hb
    cases hb
    exact ⟨rfl, by rw [bigPayload_length]; decide⟩
  · exact WFNode.mk _ _ _ _ exDict_t exAttrs (by intro b hb; cases hb) (by decide) (by decide) WFNodes.nil

end Yow.Coder
