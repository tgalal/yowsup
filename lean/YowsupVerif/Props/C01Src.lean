/-
  C01 on the TEXT of the current source: the leaf functions of the codec — the digit packing (WriteEncoder.packHex / packNibble / packByte,
  ReadDecoder.unpackHex / unpackNibble / unpackByte), the integer writers and readers (writeInt8 / 16 / 20 / 24 / 31, readInt8 / 16 / 20 / 24 / 31),
  the list header (writeListStart, readListSize) and writeToken — are regenerated on every run by a translator that works by syntax
  (harness/gen/nibsrc.py, harness/lib/py2lean.py, pure-function mode) into Gen/NibblesSrc.lean.  Each translated function is the model's
  (Model/Coder.lean) on every input (the 20- and 31-bit readers: on every list of bytes), and the translated readers and unpackers give
  back what the writers and packers produced.
-/
import YowsupVerif.Gen.NibblesSrc
import YowsupVerif.Model.Coder
import YowsupVerif.Lemmas.CoderDec
import YowsupVerif.Lemmas.CoderEnc
namespace Yow.Coder
open Yow.Gen.NibSrc

/-- the encoder's convention: -1 for "cannot be packed" -/
def encRes : Option Nat → Py.Res
  | some x => .ret (x : Int)
  | none => .ret (-1)

/-- the decoder's convention: an exception for a digit outside the alphabet -/
def decRes : Option Nat → Py.Res
  | some x => .ret (x : Int)
  | none => .raised

theorem C01_source_packHex_is_the_model (n : Nat) : enc_packHex (n : Int) = encRes (packHex n) := by
  grind [enc_packHex, packHex, encRes]

theorem C01_source_packNibble_is_the_model (n : Nat) : enc_packNibble (n : Int) = encRes (packNibble n) := by
  grind [enc_packNibble, packNibble, encRes]

theorem C01_source_packByte_is_the_model (v n : Nat) : enc_packByte (v : Int) (n : Int) = encRes (packByte v n) := by
  have h1 := C01_source_packHex_is_the_model n
  have h2 := C01_source_packNibble_is_the_model n
  grind [enc_packByte, packByte, encRes]

theorem C01_source_unpackHex_is_the_model (n : Nat) : dec_unpackHex (n : Int) = decRes (unpackHex n) := by
  grind [dec_unpackHex, unpackHex, decRes]

theorem C01_source_unpackNibble_is_the_model (n : Nat) : dec_unpackNibble (n : Int) = decRes (unpackNibble n) := by
  grind [dec_unpackNibble, unpackNibble, decRes]

theorem C01_source_unpackByte_is_the_model (t v : Nat) : dec_unpackByte (t : Int) (v : Int) = decRes (unpackByte t v) := by
  have h1 := C01_source_unpackHex_is_the_model v
  have h2 := C01_source_unpackNibble_is_the_model v
  grind [dec_unpackByte, unpackByte, decRes]

/-- Round trip of the translated functions: whatever character the current encoder packs (hex or nibble alphabet), the current decoder
    unpacks the digit to that very character; and the digit fits four bits. -/
theorem C01_source_pack_then_unpack (t c : Nat) (d : Int) (h : enc_packByte (t : Int) (c : Int) = .ret d) (hd : d ≠ -1) :
    dec_unpackByte (t : Int) d = .ret (c : Int) ∧ 0 ≤ d ∧ d < 16 := by
  -- both translated functions are the model's, and the model's unpack what they packed (`packByte_spec`)
  rw [C01_source_packByte_is_the_model] at h
  cases hp : packByte t c with
  | none => rw [hp] at h; cases h; exact absurd rfl hd
  | some x =>
    rw [hp] at h; cases h
    obtain ⟨hunpack, hlt, _⟩ := packByte_spec hp
    rw [C01_source_unpackByte_is_the_model, hunpack]
    exact ⟨rfl, Int.natCast_nonneg x, Int.ofNat_lt.2 hlt⟩

/-- nothing outside the alphabets is packed: the translated `packByte` answers -1 exactly where the model refuses -/
theorem C01_source_unpackable_refused (t c : Nat) : enc_packByte (t : Int) (c : Int) = .ret (-1) ↔ packByte t c = none := by
  rw [C01_source_packByte_is_the_model]
  cases packByte t c <;> simp [encRes]

/-! ### the integer writers and the list header: Python's `&` / `>>` on the translated side, `/` and `%` in the model -/

theorem and255 (x : Nat) : x &&& 255 = x % 256 := Nat.and_two_pow_sub_one_eq_mod x 8
theorem and15 (x : Nat) : x &&& 15 = x % 16 := Nat.and_two_pow_sub_one_eq_mod x 4
theorem and127 (x : Nat) : x &&& 127 = x % 128 := Nat.and_two_pow_sub_one_eq_mod x 7

theorem bitfield (v mk k m : Nat) (h : mk >>> k = m) : (v &&& mk) >>> k = (v / 2 ^ k) &&& m := by
  rw [Nat.shiftRight_and_distrib, h, Nat.shiftRight_eq_div_pow]

/-- with a mask of `w` ones the field is `v / 2^k % 2^w`, whichever way round the source writes the `&` -/
theorem field (v mk k w : Nat) (h : mk >>> k = 2 ^ w - 1) :
    (v &&& mk) >>> k = v / 2 ^ k % 2 ^ w ∧ (mk &&& v) >>> k = v / 2 ^ k % 2 ^ w := by
  rw [Nat.and_comm mk, and_self, bitfield v mk k _ h, Nat.and_two_pow_sub_one_eq_mod]

theorem C01_source_writeInt8_is_the_model (v : Nat) : enc_writeInt8 v = .wrote (writeInt8 v) := by
  simp only [enc_writeInt8, writeInt8, and255]

theorem C01_source_writeInt16_is_the_model (v : Nat) : enc_writeInt16 v = .wrote (writeInt16 v) := by
  simp [enc_writeInt16, Py.Out.andThen, writeInt16, and255, field v 65280 8 8 (by decide)]

theorem C01_source_writeInt20_is_the_model (v : Nat) : enc_writeInt20 v = .wrote (writeInt20 v) := by
  simp [enc_writeInt20, Py.Out.andThen, writeInt20, and255, field v 983040 16 4 (by decide), field v 65280 8 8 (by decide)]

/-- (the model has no 24-bit writer of its own: the statement is the big-endian layout itself) -/
theorem C01_source_writeInt24_layout (v : Nat) : enc_writeInt24 v = .wrote [v / 65536 % 256, v / 256 % 256, v % 256] := by
  simp [enc_writeInt24, Py.Out.andThen, and255, field v 16711680 16 8 (by decide), field v 65280 8 8 (by decide)]

theorem C01_source_writeInt31_is_the_model (v : Nat) : enc_writeInt31 v = .wrote (writeInt31 v) := by
  simp [enc_writeInt31, Py.Out.andThen, writeInt31, and255, field v 2130706432 24 7 (by decide),
    field v 16711680 16 8 (by decide), field v 65280 8 8 (by decide)]

/-- the list header: the model's bytes for every size the format has, refused (nothing written) from 65,536 on -/
theorem C01_source_writeListStart_is_the_model (i : Nat) :
    (i < 65536 → enc_writeListStart i = .wrote (writeListStart i)) ∧ (65536 ≤ i → enc_writeListStart i = .raised) := by
  constructor
  · intro h
    unfold enc_writeListStart writeListStart
    by_cases h0 : i = 0
    · simp [h0]
    · by_cases h1 : i < 256
      · simp [h0, h1, C01_source_writeInt8_is_the_model, Py.Out.andThen]
      · simp [h0, h1, h, C01_source_writeInt16_is_the_model, Py.Out.andThen]
  · intro h
    unfold enc_writeListStart
    have h0 : i ≠ 0 := by omega
    have h1 : ¬ i < 256 := by omega
    have h2 : ¬ i < 65536 := by omega
    simp [h0, h1, h2]

/-- a token is one byte, or refused -/
theorem C01_source_writeToken (t : Nat) : enc_writeToken t = if t ≤ 255 then .wrote [t] else .raised := by
  unfold enc_writeToken; by_cases h : t ≤ 255 <;> simp [h]

/-- what the translated writers emit are bytes -/
theorem C01_source_writers_emit_bytes (v : Nat) :
    BytesOK (writeInt8 v) ∧ BytesOK (writeInt16 v) ∧ BytesOK (writeInt20 v) ∧ BytesOK (writeInt31 v) := by
  -- every byte written is a remainder modulo 16, 128 or 256
  have m : ∀ x k, 0 < k → k ≤ 256 → x % k < 256 := fun x k h0 hk => Nat.lt_of_lt_of_le (Nat.mod_lt x h0) hk
  simp [BytesOK, writeInt8, writeInt16, writeInt20, writeInt31, m]

/-! ### the integer readers: Python's `<<` / `|` / `&` on the translated side, `*` / `+` / `%` in the model -/

/-- the decoder's readers: an exception (whatever kind) against the model's error, a value and the rest of the list against the model's pair -/
def rdRes : R Nat → Py.Rd
  | .ok (v, rest) => .ret v rest
  | .error _ => .raised

theorem C01_source_readInt8_is_the_model (data : Bytes) : dec_readInt8 data = rdRes (readInt8 data) := by
  cases data <;> rfl

theorem C01_source_readInt16_is_the_model (data : Bytes) : dec_readInt16 data = rdRes (readInt16 data) := by
  match data with
  | [] | [_] => rfl
  | a :: b :: r => simp [dec_readInt16, readInt16, rdRes, Nat.shiftLeft_eq]

theorem shl_or (x y k : Nat) (h : y < 2 ^ k) : x <<< k ||| y = x * 2 ^ k + y := by
  rw [← Nat.shiftLeft_add_eq_or_of_lt h, Nat.shiftLeft_eq]

/-- three and four big-endian bytes: Horner form first, then `shl_or` digit by digit -/
theorem be3 (x b c : Nat) (hb : b < 256) (hc : c < 256) :
    x <<< 16 ||| b <<< 8 ||| c = x * 65536 + b * 256 + c := by
  have : x <<< 16 ||| b <<< 8 ||| c = (x <<< 8 ||| b) <<< 8 ||| c := by
    simp only [Nat.shiftLeft_or_distrib, ← Nat.shiftLeft_add]
  rw [this, shl_or x b 8 hb, shl_or _ c 8 hc]
  simp [Nat.add_mul, Nat.mul_assoc]

theorem be4 (x b c e : Nat) (hb : b < 256) (hc : c < 256) (he : e < 256) :
    x <<< 24 ||| b <<< 16 ||| c <<< 8 ||| e = x * 16777216 + b * 65536 + c * 256 + e := by
  have : x <<< 24 ||| b <<< 16 ||| c <<< 8 ||| e = (x <<< 16 ||| b <<< 8 ||| c) <<< 8 ||| e := by
    simp only [Nat.shiftLeft_or_distrib, ← Nat.shiftLeft_add]
  rw [this, be3 x b c hb hc, shl_or _ e 8 he]
  simp [Nat.add_mul, Nat.mul_assoc]

/-- on bytes (every wire input is a list of bytes) the 20-bit reader is the model's -/
theorem C01_source_readInt20_is_the_model (data : Bytes) (hb : BytesOK data) : dec_readInt20 data = rdRes (readInt20 data) := by
  match data, hb with
  | [], _ | [_], _ | [_, _], _ => rfl
  | a :: b :: c :: r, hb =>
    simp only [dec_readInt20, readInt20, rdRes, and15]
    rw [be3 _ b c (hb b (by simp)) (hb c (by simp))]

theorem C01_source_readInt24_layout (data : Bytes) :
    dec_readInt24 data = match data with | a :: b :: c :: r => .ret (a * 65536 + b * 256 + c) r | _ => .raised := by
  match data with
  | [] | [_] | [_, _] => rfl
  | a :: b :: c :: r => simp [dec_readInt24, Nat.shiftLeft_eq]

theorem C01_source_readInt31_is_the_model (data : Bytes) (hb : BytesOK data) : dec_readInt31 data = rdRes (readInt31 data) := by
  match data, hb with
  | [], _ | [_], _ | [_, _], _ | [_, _, _], _ => rfl
  | a :: b :: c :: e :: r, hb =>
    simp only [dec_readInt31, readInt31, rdRes, and127]
    rw [be4 _ b c e (hb b (by simp)) (hb c (by simp)) (hb e (by simp))]

/-- the list header reader: the model's on every token and every input -/
theorem C01_source_readListSize_is_the_model (token : Nat) (data : Bytes) : dec_readListSize token data = rdRes (readListSize token data) := by
  unfold dec_readListSize readListSize
  by_cases h0 : token = 0
  · simp [h0, rdRes]
  · by_cases h1 : token = 248
    · simp only [h1]; rw [C01_source_readInt8_is_the_model]
      cases readInt8 data <;> simp [rdRes]
    · by_cases h2 : token = 249
      · simp only [h2]; rw [C01_source_readInt16_is_the_model]
        cases readInt16 data <;> simp [rdRes]
      · simp [h0, h1, h2, rdRes]

/-- writers and readers of the translated source are inverse to each other on the ranges of the format -/
theorem C01_source_write_then_read (v : Nat) (rest : Bytes) :
    (v < 256 → dec_readInt8 (writeInt8 v ++ rest) = .ret v rest) ∧
    (v < 65536 → dec_readInt16 (writeInt16 v ++ rest) = .ret v rest) := by
  constructor
  · intro h; rw [writeInt8, Nat.mod_eq_of_lt h]; rfl
  · intro h
    -- through the model: the translated reader is the model's, which reads the two digits of `v` back
    rw [C01_source_readInt16_is_the_model, writeInt16, Nat.mod_eq_of_lt (Nat.div_lt_of_lt_mul h)]
    exact congrArg rdRes (readInt16_len v rest)

/-- The list header of the CURRENT source survives its own round trip: for every size the format has, what the translated `writeListStart`
    appends is a token followed by size bytes from which the translated `readListSize` returns exactly that size, leaving untouched whatever
    follows. -/
theorem C01_source_list_header_roundtrip (k : Nat) (hk : k < 65536) (more : Bytes) :
    ∃ h bh, enc_writeListStart k = .wrote (h :: bh) ∧ dec_readListSize h (bh ++ more) = .ret k more := by
  obtain ⟨h, bh, hw, he, _⟩ := writeListStart_EncList hk
  refine ⟨h, bh, ?_, ?_⟩
  · rw [(C01_source_writeListStart_is_the_model k).1 hk, hw]
  · rw [C01_source_readListSize_is_the_model, readListSize_of_EncList he more]; rfl

/-- non-vacuity: runs of the translated code -/
example : enc_packByte 251 70 = .ret 15 ∧ dec_unpackByte 251 15 = .ret 70 ∧ enc_packByte 255 46 = .ret 11 ∧ dec_unpackByte 255 11 = .ret 46 ∧
    enc_packByte 255 70 = .ret (-1) ∧ dec_unpackByte 255 12 = .raised ∧
    enc_writeInt20 0xABCDE = .wrote [0x0A, 0xBC, 0xDE] ∧ enc_writeListStart 300 = .wrote [249, 1, 44] ∧ enc_writeListStart 65536 = .raised ∧
    dec_readInt20 [0xFA, 0xBC, 0xDE, 7] = .ret 0xABCDE [7] ∧ dec_readInt31 [0xFF, 1, 2, 3] = .ret 0x7F010203 [] ∧ dec_readListSize 249 [1, 44, 9] = .ret 300 [9] ∧
    dec_readListSize 250 [1] = .raised ∧ dec_readInt16 [5] = .raised := by decide

end Yow.Coder
