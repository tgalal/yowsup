/-
  C02  Wire-format conformance.
  The format is the inductive relation `Enc` / `EncFrame` of Model/WireSpec.lean (written from the
  format description: every constructor is one permitted choice of the peer).  Property theorems only.
-/
import YowsupVerif.Lemmas.CoderDec
import YowsupVerif.Lemmas.CoderEnc
import YowsupVerif.Gen.TokenDict
import YowsupVerif.Ref.TokenDict
namespace Yow.Coder

/-- What the library emits for a well-formed tree is a valid frame for exactly that tree
    (any dictionary of admissible size). -/
theorem C02_emitted_frames_conform (d : Dict) (hd : d.WF) (deflate : Bytes → Bytes) (n : Node)
    (hn : WFNode d n) : EncFrame d deflate n (encodeFrame d n) :=
  EncFrame.plain n (writeNode d n) 0 (writeNode_Enc d hd hn) (by decide)

/-- The library's decoder reads *every* valid encoding of a tree, whichever permitted choices
    the peer made (list header width, length width, token or literal, packed or raw, JID with or
    without user part, string-valued content, deflated frame), to that tree. -/
theorem C02_accepts_all_valid_encodings (d : Dict) (deflate : Bytes → Bytes) (inflate : Bytes → Option Bytes)
    (hz : ∀ x, inflate (deflate x) = some x) (n : Node) (fr : Bytes) (h : EncFrame d deflate n fr) :
    decodeFrame d inflate fr = .ok n :=
  decodeFrame_of_EncFrame d deflate inflate hz h

/-- Stream form: the decoder consumes exactly the encoding and leaves the rest untouched. -/
theorem C02_decoder_consumes_exactly (d : Dict) (n : Node) (bs rest : Bytes) (h : Enc d n bs)
    (fuel : Nat) (hf : bs.length ≤ fuel) : nextTree d fuel (bs ++ rest) = .ok (n, rest) :=
  nextTree_of_Enc d h fuel hf rest

/-- The format is unambiguous: a byte string is a valid encoding of at most one tree
    (so "decodes to the same tree" is meaningful for any conforming decoder). -/
theorem C02_encoding_unambiguous (d : Dict) (n n' : Node) (bs : Bytes) (h : Enc d n bs) (h' : Enc d n' bs) :
    n = n' := by
  have a := nextTree_of_Enc d h bs.length (Nat.le_refl _) []
  have b := nextTree_of_Enc d h' bs.length (Nat.le_refl _) []
  rw [a] at b
  injection b with b
  injection b

/-- The token dictionary of the current source equals the reference copy, entry by entry
    (236 primary + 4×256 secondary), and the frame flags are the format's. Re-checked on every run
    against the regenerated `Gen/TokenDict.lean`. -/
theorem C02_dict_matches_reference :
    Gen.primary = Ref.primary ∧ Gen.secondary = Ref.secondary ∧
    Gen.flagSegmented = 1 ∧ Gen.flagDeflate = 2 :=
  -- two closed tables, compared by unfolding both sides rather than by running `DecidableEq`
  ⟨rfl, rfl, rfl, rfl⟩

/- Non-vacuity: a concrete frame in the relation that uses non-default choices
   (16-bit list header, 20-bit length for a short string, JID without user part). -/
example : Enc ⟨[[], [1], [2], [116]], []⟩ (.mk [116] [] (some [55]) [])
    (249 :: ([0, 2] ++ 3 :: ([] ++ ([] ++ 250 :: [0, 253, 0, 0, 1, 55])))) :=
  Enc.content [116] [] [55] 249 [0, 2] 3 [] [] 250 [0, 253, 0, 0, 1, 55]
    (EncList.long 2 (by decide)) (by decide)
    (EncStr.tok 3 [116] (by decide) (by decide) rfl (by decide))
    EncAttrs.nil (by simp [keysNodup])
    (EncStr.jid0 [55] 253 [0, 0, 1, 55] (EncStr.raw20 [55] (by decide)))

end Yow.Coder
