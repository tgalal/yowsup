/-
  C03  End-to-end messaging: exactly-once authentic delivery, only ciphertext on the wire.
  Property theorems only (lemmas: Lemmas/E2E.lean, Lemmas/E2ESteps.lean, Lemmas/E2ETokens.lean, Lemmas/E2EFaults.lean) about the system model
  Model/E2E.lean: any number of accounts and groups, arbitrary conversation scripts (`appSend`), every schedule of the
  server's per-account FIFO queues (`process`, `deliver`), the two server faults (`deliver … dup / corrupt`, at most one
  per message and recipient) and restarts at quiescence — all as one action list restricted only by `AllowedRun`.
-/
import YowsupVerif.Lemmas.E2ETokens
import YowsupVerif.Lemmas.E2EFaults
import YowsupVerif.Lemmas.E2ETokUnbounded
import YowsupVerif.Lemmas.E2ESteps
namespace Yow.E2E

/-- No stanza leaving a client ever contains the plaintext payload: every message stanza on the wire carries encrypted
    envelopes only — for every script, schedule and fault sequence. -/
theorem C03_only_ciphertext_on_wire (accts : List Acct) (groups : List (Nat × List Acct)) (hw : WFConfig accts groups)
    (acts : List Act) (ha : AllowedRun (initSys accts groups) acts = true) :
    ∀ a id peer part im encs pl, (a, Stanza.msg id peer part im encs pl) ∈ (run (initSys accts groups) acts).wire → pl = none :=
  wire_only_ciphertext accts groups hw acts ha

/-- Whatever reaches an application is authentic and was meant for it — original content, sender and group identity,
    and "reaches nobody else": every message shown to `r` was submitted by the account it claims to come from, to `r` or
    to a group `r` belongs to, with exactly that content.  For every script, schedule and fault sequence. -/
theorem C03_shown_is_authentic_and_intended (accts : List Acct) (groups : List (Nat × List Acct)) (hw : WFConfig accts groups)
    (acts : List Act) (ha : AllowedRun (initSys accts groups) acts = true) :
    let s := run (initSys accts groups) acts
    ∀ r x, x ∈ (getClient s r).shown →
      ∃ a n, (a, n) ∈ s.submitted ∧ n.id = x.id ∧ n.payload = x.payload ∧ r ∈ intended s a n ∧ OriginOf a n x.peer x.participant :=
  shown_is_genuine accts groups hw acts ha

/-- Exactly once, with receipts — the property at full strength: for every configuration whose groups list each member
    once, every script of at most 100 messages (the property's own bound: fewer than 100 unacknowledged messages), every
    schedule, every restart at quiescence AND every use of the two server faults the alphabet allows (a message delivered
    twice; one damaged ciphertext per message), whenever the server's queues are empty every submitted message has been
    shown exactly once to each intended recipient and the sender's application holds a delivery receipt from each of them
    (a duplicated delivery is acknowledged again, so there may be more than one); and as long as the queues are not empty
    the server can act. -/
theorem C03_exactly_once_with_receipts (accts : List Acct) (groups : List (Nat × List Acct)) (hw : WFConfig accts groups)
    (hnd : ∀ g ∈ groups, g.2.Nodup) (acts : List Act) (ha : AllowedRun (initSys accts groups) acts = true) (hn : sendCount acts ≤ 100) :
    let s := run (initSys accts groups) acts
    (quiescent s = true →
      ∀ a n, (a, n) ∈ s.submitted → ∀ r, r ∈ intended s a n →
        shownCount s r n.id = 1 ∧
        1 ≤ ((getClient s a).receipts.filter (fun e =>
          e.1 == n.id && e.2.2.2 == RType.delivery && (e.2.2.1 == some r || (e.2.2.1.isNone && e.2.1 == Dest.user r)))).length) ∧
    (quiescent s = false → ∃ a, Allowed s (.process a) = true ∨ Allowed s (.deliver a .none) = true) := by
  intro s
  exact ⟨exactly_once_with_faults accts groups hw hnd acts ha hn,
         fun h => not_quiescent_enabled s (queueKeys_run accts groups acts) h⟩

/-- Without faults the count of receipts is exact, and NO bound on the number of messages is needed (the bound of the previous
    theorem exists only because the send layer keeps the last 100 sent messages for serving retry requests, and a fault-free run
    never produces one): every submitted message has been shown exactly once to each intended recipient and the sender's
    application holds exactly one delivery receipt from each of them. -/
theorem C03_exactly_once_one_receipt_fault_free (accts : List Acct) (groups : List (Nat × List Acct)) (hw : WFConfig accts groups)
    (hnd : ∀ g ∈ groups, g.2.Nodup) (acts : List Act) (ha : AllowedRun (initSys accts groups) acts = true) (hf : NoFault acts = true) :
    let s := run (initSys accts groups) acts
    (quiescent s = true →
      ∀ a n, (a, n) ∈ s.submitted → ∀ r, r ∈ intended s a n →
        shownCount s r n.id = 1 ∧
        ((getClient s a).receipts.filter (fun e =>
          e.1 == n.id && e.2.2.2 == RType.delivery && (e.2.2.1 == some r || (e.2.2.1.isNone && e.2.1 == Dest.user r)))).length = 1) ∧
    (quiescent s = false → ∃ a, Allowed s (.process a) = true ∨ Allowed s (.deliver a .none) = true) := by
  intro s
  exact ⟨exactly_once_fault_free_unbounded accts groups hw hnd acts ha hf,
         fun h => not_quiescent_enabled s (queueKeys_run accts groups acts) h⟩

/-- every (message, recipient) pair has exactly one token at every moment of a fault-free run of any length: nothing is lost or
    multiplied on the way (the invariant behind the previous theorem) -/
theorem C03_token_conservation (accts : List Acct) (groups : List (Nat × List Acct)) (hw : WFConfig accts groups)
    (hnd : ∀ g ∈ groups, g.2.Nodup) (acts : List Act) (ha : AllowedRun (initSys accts groups) acts = true) (hf : NoFault acts = true) :
    conserved (run (initSys accts groups) acts) = true :=
  conserved_fault_free_unbounded accts groups hw hnd acts ha hf

/-- A message the server delivers twice is shown once and acknowledged again: in ANY state, a 1:1 ciphertext that was
    opened before produces exactly one delivery receipt and nothing at the application; likewise a group ciphertext. -/
theorem C03_duplicate_shown_once (s : Sys) (r a : Acct) (id : Nat) (im : Bool) (ct : Ct)
    (hk : ct.kind = .pkmsg ∨ ct.kind = .msg) (hc : ct.corrupt = false)
    (hs : (getClient s r).seen.contains (ct.sess, ct.ctr) = true)
    (hsess : ct.kind = .msg → ∃ se, lookup (getClient s r).sessions a = some se ∧ (se.cur = ct.sess ∨ ct.sess ∈ se.archived)) :
    let s' := clientReceive s r (.msg id (.user a) none im [(none, ct)] none)
    (getClient s' r).shown = (getClient s r).shown ∧ s'.wire = s.wire ++ [(r, .receipt id (.user a) none .delivery)] :=
  duplicate_reacknowledged s r a id im ct hk hc hs hsess

theorem C03_duplicate_group_shown_once (s : Sys) (r a : Acct) (g id : Nat) (im : Bool) (ct : Ct)
    (hk : ct.kind = .skmsg) (hc : ct.corrupt = false) (hkey : lookup (getClient s r).peerSK (g, a) = some ct.sess)
    (hs : (getClient s r).seenSK.contains (ct.sess, ct.ctr) = true) :
    let s' := clientReceive s r (.msg id (.group g) (some a) im [(none, ct)] none)
    (getClient s' r).shown = (getClient s r).shown ∧ s'.wire = s.wire ++ [(r, .receipt id (.group g) (some a) .delivery)] :=
  duplicate_group_reacknowledged s r a g id im ct hk hc hkey hs

/-- A message that cannot be decrypted triggers a retry request (with the incremented counter) and is not shown. -/
theorem C03_corrupt_triggers_retry (s : Sys) (r a : Acct) (id : Nat) (im : Bool) (ct : Ct)
    (hk : ct.kind = .pkmsg ∨ ct.kind = .msg) (hc : ct.corrupt = true)
    (hsess : ct.kind = .msg → (lookup (getClient s r).sessions a).isSome = true) :
    let s' := clientReceive s r (.msg id (.user a) none im [(none, ct)] none)
    (getClient s' r).shown = (getClient s r).shown ∧
    s'.wire = s.wire ++ [(r, .receipt id (.user a) none (.retry ((lookup (getClient s r).retries id).getD 0 + 1)))] :=
  corrupt_triggers_retry s r a id im ct hk hc hsess

/-- non-vacuity: a concrete script with a group, run to quiescence, satisfies the hypotheses and shows every message once -/
example :
    let acts : List Act := [.appSend 1 { id := 100, dest := .user 2, payload := { isMedia := false, content := 5 } },
      .process 1, .deliver 1 .none, .process 1, .deliver 1 .none, .deliver 2 .none, .process 2, .deliver 1 .none, .deliver 2 .none, .process 1]
    AllowedRun (initSys [1, 2] []) acts = true ∧ NoFault acts = true ∧ quiescent (run (initSys [1, 2] []) acts) = true ∧
    shownCount (run (initSys [1, 2] []) acts) 2 100 = 1 := by decide

/-- non-vacuity with faults: a first message whose ciphertext is damaged on delivery (retry, served, shown once), and one that is
    delivered twice (shown once), both run to quiescence: the hypotheses of `C03_exactly_once_with_receipts` hold with
    `NoFault acts = false` -/
example :
    let acts : List Act := [.appSend 1 { id := 100, dest := .user 2, payload := { isMedia := false, content := 5 } }, .process 1, .deliver 1 .none, .process 1, .deliver 2 .corrupt, .deliver 1 .none, .process 2, .deliver 1 .none, .process 1, .process 1, .deliver 1 .none, .process 1, .deliver 1 .none, .deliver 2 .none, .deliver 2 .none, .process 2, .deliver 1 .none, .process 1, .deliver 2 .none]
    AllowedRun (initSys [1, 2] []) acts = true ∧ NoFault acts = false ∧ quiescent (run (initSys [1, 2] []) acts) = true ∧
    shownCount (run (initSys [1, 2] []) acts) 2 100 = 1 := by decide
example :
    let acts : List Act := [.appSend 1 { id := 100, dest := .user 2, payload := { isMedia := false, content := 5 } }, .process 1, .deliver 1 .none, .process 1, .deliver 2 .dup, .deliver 1 .none, .process 2, .deliver 1 .none, .process 1, .deliver 2 .none, .process 2, .deliver 1 .none, .process 1, .deliver 2 .none, .deliver 2 .none]
    AllowedRun (initSys [1, 2] []) acts = true ∧ NoFault acts = false ∧ quiescent (run (initSys [1, 2] []) acts) = true ∧
    shownCount (run (initSys [1, 2] []) acts) 2 100 = 1 := by decide

end Yow.E2E
