/-
  C03 (clause "a damaged message is asked for again and then shown"): the memory of sent messages that retry requests are served from.
  Property theorems only (model: Model/SentQueue.lean, lemmas: Lemmas/SentQueue.lean).  The bound and the end a full memory forgets are
  regenerated from the current source on every run (Gen/SentQueueCfg.lean).
-/
import YowsupVerif.Lemmas.SentQueue
import YowsupVerif.Gen.SentQueueCfg
namespace Yow.SentQueue

/-- Regenerated obligation: a full memory of the current source forgets its oldest entry and keeps the message just sent; it holds exactly
    its bound after one send too many; the bound is positive. -/
theorem C03_current_source_forgets_the_oldest :
    Yow.Gen.sentQueueOldestFirst = true ∧ 0 < Yow.Gen.sentQueueCap ∧ Yow.Gen.sentQueueHeldAfterOverflow = Yow.Gen.sentQueueCap := by decide

/-- Regenerated obligation: the property's own bound (fewer than 100 unacknowledged messages per sender) lies within the memory's bound. -/
theorem C03_memory_covers_the_propertys_bound : 100 ≤ Yow.Gen.sentQueueCap := by decide

/-- A message that was sent can be encrypted again for a retry request as long as fewer than MAX_SENT_QUEUE messages were sent after it and
    no receipt took it out — whatever else happened before and in between (any sends and receipts, repeated ids included, a sender that has
    lived through any number of messages). -/
theorem C03_retry_request_finds_the_message (q : List Nat) (hq : q.length ≤ Yow.Gen.sentQueueCap) (pre post : List Op) (x : Nat)
    (hfew : (post.filter isEnq).length < Yow.Gen.sentQueueCap) (hkeep : ∀ o ∈ post, removes x o = false) :
    found (run Yow.Gen.sentQueueOldestFirst Yow.Gen.sentQueueCap q (pre ++ Op.enq x :: post)) x = true := by
  have _ := hq
  rw [C03_current_source_forgets_the_oldest.1]
  exact sent_message_stays _ q pre post x hfew hkeep

/-- the memory never exceeds its bound -/
theorem C03_memory_is_bounded (q : List Nat) (hq : q.length ≤ Yow.Gen.sentQueueCap) (ops : List Op) :
    (run Yow.Gen.sentQueueOldestFirst Yow.Gen.sentQueueCap q ops).length ≤ Yow.Gen.sentQueueCap := by
  obtain ⟨holdest, hcap, _⟩ := C03_current_source_forgets_the_oldest
  rw [holdest]
  exact run_length_le _ hcap q hq ops

/-- with sends only (group messages: no receipt takes them out) a fresh sender's memory holds exactly the last MAX_SENT_QUEUE messages -/
theorem C03_memory_holds_the_latest_sends (xs : List Nat) :
    run Yow.Gen.sentQueueOldestFirst Yow.Gen.sentQueueCap [] (xs.map Op.enq) = xs.drop (xs.length - Yow.Gen.sentQueueCap) := by
  obtain ⟨holdest, hcap, _⟩ := C03_current_source_forgets_the_oldest
  have := run_enq_drop _ hcap xs []
  rwa [List.drop_nil, List.nil_append, ← holdest] at this

/-- Sensitivity: a full memory that drops the newcomer instead (seed C03-11) loses the message just sent: a retry request for it finds
    nothing, although no message was sent after it. -/
theorem C03_dropping_the_newcomer_loses_it :
    found (run false 3 [] ([1, 2, 3, 4].map Op.enq)) 4 = false ∧ found (run true 3 [] ([1, 2, 3, 4].map Op.enq)) 4 = true := by decide

/- An instance of `C03_retry_request_finds_the_message` with bound 3: a sender that has lived through 5 sends, message 4 followed by
   one more send and a participant receipt. -/
example : found (run true 3 [] ([Op.enq 1, .enq 2, .enq 3] ++ Op.enq 4 :: [.enq 5, .take 4 true])) 4 = true := by decide

end Yow.SentQueue
