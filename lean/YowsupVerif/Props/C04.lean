/-
  C04  Encrypted transport: handshake succeeds, frames flow intact and in order.
  Property theorems only (lemmas: Lemmas/Handshake.lean; fragmentation: Props/C05.lean).  The theorems quantify over every
  schedule of the network thread and the handshake worker threads (at queue / lock / state-machine operations) and every
  connect / disconnect history; cryptography is abstracted to "a segment authenticates under the keys of the handshake of
  its own connection" (all three login variants consume one server reply; which pattern produced the keys does not matter
  to the orchestration — the variants themselves are exercised against a Noise responder in the correspondence run).
  `C04_source_orchestration` ties the theorems to the current source.
-/
import YowsupVerif.Lemmas.Handshake
import YowsupVerif.Gen.HsCfg
import YowsupVerif.Props.C05
namespace Yow.HS

/-- in the current source a disconnect retires the segment queue, the stream and the protocol object, and the segment layer
    drops a half-received segment (observed by running the layers; Gen/HsCfg.lean) -/
theorem C04_source_orchestration : Yow.Gen.hsCfg = goodCfg := by decide

/-- Every fragmentation of the server's byte stream yields exactly the server's segments, in order (C05's theorem) … -/
theorem C04_any_fragmentation (fs : List Yow.Bytes) (hfs : Yow.Segments.FramesOK fs) (cs : List Yow.Bytes)
    (hcs : cs.flatten = Yow.Segments.stream fs) :
    Yow.Segments.run Yow.Segments.init cs = ({ enabled := true, buf := [] }, fs) :=
  Yow.Segments.C05_any_chunking fs hfs cs hcs

/-- … also after a connection that was lost in the middle of a segment: whatever was half-received is dropped, so the next
    connection's stream is read from a clean buffer. -/
theorem C04_fragmentation_after_reconnect (leftover : Yow.Bytes) (fs : List Yow.Bytes) (hfs : Yow.Segments.FramesOK fs)
    (cs : List Yow.Bytes) (hcs : cs.flatten = Yow.Segments.stream fs) :
    Yow.Segments.run (if Yow.Gen.hsCfg.segReset then { enabled := true, buf := [] } else { enabled := true, buf := leftover }) cs
      = ({ enabled := true, buf := [] }, fs) := by
  rw [C04_source_orchestration]
  exact Yow.Segments.C05_any_chunking fs hfs cs hcs

/-- For every schedule and history: the client establishes the session on the live connection once the server's reply has
    arrived — also when earlier attempts were cut off before, during or after the handshake. -/
theorem C04_handshake_succeeds (acts : List Act) (ha : AllowedRun Yow.Gen.hsCfg {} acts = true)
    (hg : allGood (run Yow.Gen.hsCfg {} acts) = true) (hr : atRest (run Yow.Gen.hsCfg {} acts) = true)
    (hl : (run Yow.Gen.hsCfg {} acts).live = true) (hh : (run Yow.Gen.hsCfg {} acts).helloSeen = true) :
    pstate (run Yow.Gen.hsCfg {} acts) = .transport ∧ keyOf (run Yow.Gen.hsCfg {} acts) = some (run Yow.Gen.hsCfg {} acts).conn := by
  rw [C04_source_orchestration] at ha hg hr hl hh ⊢
  exact handshake_succeeds (Inv_of_run acts ha) hg hr hl hh

/-- From then on every server frame arrives upward intact, in sending order, exactly once — including frames that arrive
    at the very moment the handshake completes (they wait in the queue and are flushed by whichever thread comes first). -/
theorem C04_frames_in_order_exactly_once (acts : List Act) (ha : AllowedRun Yow.Gen.hsCfg {} acts = true)
    (hg : allGood (run Yow.Gen.hsCfg {} acts) = true) :
    let s := run Yow.Gen.hsCfg {} acts
    noRaise s = true ∧ framesUpOfConn s <+: framesOfConn s ∧
    (atRest s = true → pstate s = .transport → framesUpOfConn s = framesOfConn s) := by
  rw [C04_source_orchestration] at ha hg ⊢
  exact ⟨(frames_in_order (Inv_of_run acts ha) hg).1, (frames_in_order (Inv_of_run acts ha) hg).2, frames_complete (Inv_of_run acts ha)⟩

/-- A handshake whose server reply fails authentication is reported upward as a login failure instead of hanging. -/
theorem C04_failed_authentication_reported (acts : List Act) (ha : AllowedRun Yow.Gen.hsCfg {} acts = true)
    (hb : ∃ sg ∈ (run Yow.Gen.hsCfg {} acts).arrived, sg.kind = .hello ∧ sg.conn = (run Yow.Gen.hsCfg {} acts).conn ∧ sg.good = false)
    (hr : atRest (run Yow.Gen.hsCfg {} acts) = true) (hl : (run Yow.Gen.hsCfg {} acts).live = true) :
    pstate (run Yow.Gen.hsCfg {} acts) = .error ∧ Up.failure (run Yow.Gen.hsCfg {} acts).conn ∈ (run Yow.Gen.hsCfg {} acts).up := by
  rw [C04_source_orchestration] at ha hb hr hl ⊢
  exact failure_reported (Inv_of_run acts ha) hb hr hl

/-- Sensitivity: what retiring the queue and the protocol object on disconnect is for (kernel-checked histories).
    With a shared queue the worker of an attempt that was cut off before the server answered consumes the reply of the next
    attempt, which then fails although the server is honest.  With a shared protocol object a worker that read its reply
    just before the connection was replaced switches the NEW attempt's protocol to transport with the old connection's keys. -/
theorem C04_shared_state_breaks_reconnect :
    (let acts : List Act := [.connect, .disconnect, .connect, .arrive { conn := 2, kind := .hello, good := true, serial := 1 }, .net, .worker 0, .worker 0]
     let s := run { freshQueue := false, freshProtocol := false, segReset := true } {} acts
     AllowedRun { freshQueue := false, freshProtocol := false, segReset := true } {} acts = true ∧ allGood s = true ∧
     pstate s = .error ∧ Up.failure 1 ∈ s.up) ∧
    (let acts : List Act := [.connect, .arrive { conn := 1, kind := .hello, good := true, serial := 1 }, .net, .worker 0, .disconnect, .connect, .worker 0]
     let s := run { freshQueue := true, freshProtocol := false, segReset := true } {} acts
     AllowedRun { freshQueue := true, freshProtocol := false, segReset := true } {} acts = true ∧
     pstate s = .transport ∧ keyOf s = some 1 ∧ s.conn = 2) :=
  ⟨by decide +kernel, by decide +kernel⟩

end Yow.HS
