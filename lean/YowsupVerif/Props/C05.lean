/-
  C05  Frame segmentation: any chunking of the byte stream yields the original frames.
  The chunking theorems are instances of two statements about a fresh layer (`run_init`, `run_init_stream`); a connection is a
  sequence of stretches between moves of the framing switch (`Phase`, `runPhases`).  Lemmas about the receive loop: Lemmas/Segments.lean.
-/
import YowsupVerif.Lemmas.Segments
namespace Yow.Segments

def init : St := { enabled := true, buf := [] }

theorem run_init (cs : List Bytes) :
    run init cs = ({ enabled := true, buf := (peel cs.flatten).2 }, (peel cs.flatten).1) :=
  run_enabled [] (peel_short [] (Nat.zero_le 3)) cs

theorem run_init_stream (fs : List Bytes) (hfs : FramesOK fs) (tail : Bytes) (ht : peel tail = ([], tail))
    (cs : List Bytes) (hcs : cs.flatten = stream fs ++ tail) :
    run init cs = ({ enabled := true, buf := tail }, fs) := by
  rw [run_init, hcs, peel_stream fs hfs tail, ht, List.append_nil]

/-- Whatever way the stream of whole frames is cut into chunks, exactly the frames are
    handed upward, in order, and the buffer is empty afterwards. -/
theorem C05_any_chunking (fs : List Bytes) (hfs : FramesOK fs) (cs : List Bytes)
    (hcs : cs.flatten = stream fs) :
    run init cs = ({ enabled := true, buf := [] }, fs) :=
  run_init_stream fs hfs [] (peel_short [] (Nat.zero_le 3)) cs (by rw [hcs, List.append_nil])

/-- Stream cut in the middle of a frame `g`: the complete frames before it are delivered,
    nothing else, and the buffer holds exactly the received part of `g`. -/
theorem C05_any_chunking_cut (fs : List Bytes) (hfs : FramesOK fs) (g tail rest : Bytes)
    (hg : 0 < g.length ∧ g.length < 16777216) (hrest : rest ≠ []) (hcut : tail ++ rest = frame g)
    (cs : List Bytes) (hcs : cs.flatten = stream fs ++ tail) :
    run init cs = ({ enabled := true, buf := tail }, fs) :=
  run_init_stream fs hfs tail (peel_proper_prefix g tail rest hg.2 hrest hcut) cs hcs

/-- Delivery is incremental and never ahead of the bytes: after any prefix of the chunk list,
    what was delivered is a prefix of the final delivery (nothing is retracted or reordered). -/
theorem C05_delivered_monotone (cs ds : List Bytes) :
    ∃ more, (run init (cs ++ ds)).2 = (run init cs).2 ++ more := by
  rw [run_init, run_init, List.flatten_append, peel_append]
  exact ⟨_, rfl⟩

/-- Outgoing layout: the 3-byte big-endian length, then the payload, as two writes in that order. -/
theorem C05_send_layout (p : Bytes) (h : p.length < 16777216) :
    send true p = .writes [be24 p.length, p] := by
  unfold send; simp; omega

/-- The header decodes to the payload length (it is the big-endian representation). -/
theorem C05_send_header_value (p : Bytes) (h : p.length < 16777216) :
    rd24 (p.length / 65536 % 256) (p.length / 256 % 256) (p.length % 256) = p.length ∧
    BytesOK (be24 p.length) := by
  refine ⟨rd24_be24 _ h, fun b hb => ?_⟩
  simp only [be24, List.mem_cons, List.not_mem_nil, or_false] at hb
  rcases hb with rfl | rfl | rfl <;> exact Nat.mod_lt _ (by decide)

/-- Payloads that do not fit 24 bits are refused: nothing is written. -/
theorem C05_send_refuses_large (e : Bool) (p : Bytes) (h : 16777216 ≤ p.length) :
    send e p = .refused := by
  unfold send; simp [h]

/-- What `send` writes is read back by `recv` as exactly the payload. -/
theorem C05_send_then_recv (p : Bytes) (h0 : 0 < p.length) (h : p.length < 16777216)
    (cs : List Bytes) (hcs : cs.flatten = be24 p.length ++ p) :
    run init cs = ({ enabled := true, buf := [] }, [p]) := by
  apply C05_any_chunking [p] (by intro f hf; simp at hf; subst hf; exact ⟨h0, h⟩) cs
  simp [stream, frame, hcs]

/-- A frame whose handling closes the connection (re-entrantly, while the layer is still inside its loop) is the last frame handed up
    from that connection, and whatever the old connection had left behind is gone: the next connection's frames — any frames, any
    chunking — are handed up exactly. -/
theorem C05_after_closing_frame (closes : Bytes → Bool) (buf chunk : Bytes) (h : (recvC closes buf chunk).2.2 = true)
    (fs : List Bytes) (hfs : FramesOK fs) (cs : List Bytes) (hcs : cs.flatten = stream fs) :
    run { enabled := true, buf := (recvC closes buf chunk).1 } cs = ({ enabled := true, buf := [] }, fs) := by
  have hb : (recvC closes buf chunk).1 = [] := by
    unfold recvC at h ⊢
    by_cases hr : (peelF closes (buf ++ chunk)).2.2 = true
    · simp [hr]
    · simp [hr] at h
  rw [hb]
  exact C05_any_chunking fs hfs cs hcs

/-- With segmentation switched off `recv` hands every chunk up as it came and keeps nothing. -/
theorem C05_disabled_passthrough (buf c : Bytes) :
    recv { enabled := false, buf := buf } c = ({ enabled := false, buf := buf }, [c]) := by
  simp [recv]

theorem run_off (b : Bytes) (raw : List Bytes) :
    run { enabled := false, buf := b } raw = ({ enabled := false, buf := b }, raw) := by
  induction raw with
  | nil => rfl
  | cons c cs ih => rw [run_cons, C05_disabled_passthrough, ih]; rfl

/-- The way a login uses the layer: framing is off while the raw preamble travels — whatever arrives then is handed up as it is and leaves
    no trace in the layer — and is switched on for the rest of the same connection: the frames that follow are delivered exactly, in any
    chunking, whatever was received before the switch. -/
theorem C05_frames_after_the_switch (raw : List Bytes) (fs : List Bytes) (hfs : FramesOK fs) (cs : List Bytes)
    (hcs : cs.flatten = stream fs) :
    let s0 : St := { enabled := false, buf := [] }
    run s0 raw = (s0, raw) ∧ run { (run s0 raw).1 with enabled := true } cs = ({ enabled := true, buf := [] }, fs) := by
  refine ⟨run_off [] raw, ?_⟩
  simp only [run_off]
  exact C05_any_chunking fs hfs cs hcs

/-- One stretch of a connection between two moves of the framing switch. -/
structure Phase where
  on : Bool
  chunks : List Bytes
  frames : List Bytes

/-- what the peer sent during an on-stretch is whole frames, cut into chunks anywhere -/
def Phase.OK (p : Phase) : Prop := p.on = true → FramesOK p.frames ∧ p.chunks.flatten = stream p.frames

/-- what must reach the layer above during the stretch: the frames, or (framing off) the chunks as they came -/
def Phase.expected (p : Phase) : List Bytes := if p.on then p.frames else p.chunks

/-- the layer over a whole connection: the switch is set at the start of every stretch (the property is read at every call), the buffer is the layer's own -/
def runPhases : St → List Phase → St × List (List Bytes)
  | s, [] => (s, [])
  | s, p :: ps =>
    let r := run { s with enabled := p.on } p.chunks
    let rest := runPhases r.1 ps
    (rest.1, r.2 :: rest.2)

/-- The switch may move any number of times within one connection (the login of an account with routing information: raw header, framed
    routing information, raw prologue, frames): every stretch delivers exactly what it should — the frames of an on-stretch in any chunking,
    the chunks of an off-stretch as they came — whatever the stretches before it were. -/
theorem C05_any_sequence_of_switches (ps : List Phase) (h : ∀ p ∈ ps, p.OK) (en : Bool) :
    (runPhases { enabled := en, buf := [] } ps).2 = ps.map Phase.expected ∧ (runPhases { enabled := en, buf := [] } ps).1.buf = [] := by
  induction ps generalizing en with
  | nil => simp [runPhases]
  | cons p ps ih =>
    have hp := h p (by simp)
    have hps : ∀ q ∈ ps, q.OK := fun q hq => h q (by simp [hq])
    cases hon : p.on with
    | true =>
      obtain ⟨hf, hc⟩ := hp hon
      have hr : run { enabled := true, buf := [] } p.chunks = ({ enabled := true, buf := [] }, p.frames) := C05_any_chunking p.frames hf p.chunks hc
      simp only [runPhases, hon, hr, List.map_cons, Phase.expected]
      exact ⟨by simp [(ih hps true).1], (ih hps true).2⟩
    | false =>
      simp only [runPhases, hon, run_off, List.map_cons, Phase.expected]
      exact ⟨by simp [(ih hps false).1], (ih hps false).2⟩

/-- Sensitivity (seed C05-15): a layer that stays framed once framing has been on cuts the raw bytes of a later off-stretch up as frames. -/
theorem C05_latched_switch_breaks_a_later_raw_stretch :
    (recv { enabled := true, buf := [] } [0, 0, 1, 87, 65]).2 ≠ [[0, 0, 1, 87, 65]] ∧
    (runPhases { enabled := true, buf := [] } [⟨false, [[0, 0, 1, 87, 65]], []⟩]).2 = [[[0, 0, 1, 87, 65]]] := by
  decide +kernel

/- Non-vacuity: the login of an account with routing information, as four stretches. -/
example : ∀ p ∈ ([⟨false, [[69, 68, 0, 1]], []⟩, ⟨true, [[0, 0], [2, 9, 9]], [[9, 9]]⟩, ⟨false, [[87, 65, 4, 0]], []⟩, ⟨true, [[0, 0, 1, 7]], [[7]]⟩] : List Phase), p.OK := by
  intro p hp
  simp at hp
  rcases hp with h | h | h | h <;> subst h <;> simp [Phase.OK, FramesOK, stream, frame, be24]

/-- Sensitivity (seed C05-13): a layer that also keeps what it hands up raw delivers something else after the switch. -/
theorem C05_bytes_kept_while_off_break_the_framing :
    (recv { enabled := true, buf := [0] } (frame [7, 7])).2 ≠ [[7, 7]] := by
  decide +kernel

/- Non-vacuity: concrete frames and a chunking that cuts inside a header satisfy the hypotheses. -/
example : FramesOK [[7], [1, 2, 3, 4, 5]] := by
  intro f hf; simp at hf; rcases hf with h | h <;> subst h <;> simp
example : ([[0, 0], [1, 7, 0], [0, 5, 1, 2], [3, 4, 5]] : List Bytes).flatten
    = stream [[7], [1, 2, 3, 4, 5]] := by decide
example : ([0, 0] : Bytes) ++ [5, 1, 2, 3, 4, 5] = frame [1, 2, 3, 4, 5] ∧ ([5, 1, 2, 3, 4, 5] : Bytes) ≠ [] := by
  decide

end Yow.Segments
