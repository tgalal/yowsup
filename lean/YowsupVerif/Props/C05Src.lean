/-
  C05 on the TEXT of the current source.  Gen/SegmentsSrc.lean is regenerated on every run by a translator that works by syntax
  (harness/gen/segsrc.py, harness/lib/py2lean.py): `receive`, `send` and `on_disconnected` of YowNoiseSegmentsLayer, statement by statement.
  The theorems here say that the translated methods compute the hand-written model, and carry C05's main theorems over to them.
  The lemmas about the translated loop are in Lemmas/SegmentsSrc.lean.
-/
import YowsupVerif.Lemmas.SegmentsSrc
import YowsupVerif.Props.C05
namespace Yow.Segments
open Yow.Gen.SegSrc

/-- the run in which the layers above accept every frame (`toUpper` returns normally) -/
abbrev ok : Bytes → Bool := fun _ => false

/-- the layer's state as the translated methods see it: the read buffer, the framing switch as the stack property, the argument -/
def envOf (s : St) (arg : Bytes) : Env :=
  { self__read_buffer := s.buf, prop_PROP_ENABLED := some s.enabled, data := arg }

/-- `receive` of the current source computes the model's `recv`: same buffer afterwards, same frames handed upward in the same order,
    nothing written downward, no exception; and the fuel of the translation never cuts the loop off. -/
theorem C05_source_receive_is_the_model (s : St) (chunk : Bytes) (fuel : Nat) (hf : (s.buf ++ chunk).length < fuel) :
    (receive ok fuel (envOf s chunk)).self__read_buffer = (recv s chunk).1.buf ∧
    (receive ok fuel (envOf s chunk)).up = (recv s chunk).2 ∧
    (receive ok fuel (envOf s chunk)).low = [] ∧
    (receive ok fuel (envOf s chunk)).raised = false ∧
    (receive ok fuel (envOf s chunk)).fuelOut = false ∧
    (receive ok fuel (envOf s chunk)).prop_PROP_ENABLED = some s.enabled := by
  obtain ⟨en, buf⟩ := s
  cases en
  · simp [receive, envOf, recv]
  · obtain ⟨h1, h2, h3, h4, _, h6, h7⟩ := receive_on ok fuel buf chunk hf
    rw [peelF_never] at h1 h2 h3
    exact ⟨h1, h2, h4, h3, h6, h7⟩

/-- `send` of the current source computes the model's `send`: refused exactly from 2^24 bytes on, otherwise the writes of the model
    in the same order; the read buffer is not touched and nothing is handed upward. -/
theorem C05_source_send_is_the_model (s : St) (p : Bytes) (fuel : Nat) :
    (if (Gen.SegSrc.send ok fuel (envOf s p)).raised then SendOut.refused else .writes (Gen.SegSrc.send ok fuel (envOf s p)).low)
      = Segments.send s.enabled p ∧
    (Gen.SegSrc.send ok fuel (envOf s p)).self__read_buffer = s.buf ∧ (Gen.SegSrc.send ok fuel (envOf s p)).up = [] := by
  by_cases h : 16777216 ≤ p.length
  · simp [Gen.SegSrc.send, Segments.send, envOf, h]
  · have h2 : ¬ 4294967296 ≤ p.length := by omega
    cases he : s.enabled <;> simp [Gen.SegSrc.send, Segments.send, envOf, h, h2, he, Py.packBE32, be24]

/-- a refused payload leaves no partial write behind (no header without its payload) -/
theorem C05_source_refused_send_writes_nothing (s : St) (p : Bytes) (fuel : Nat) (h : 16777216 ≤ p.length) :
    (Gen.SegSrc.send ok fuel (envOf s p)).raised = true ∧ (Gen.SegSrc.send ok fuel (envOf s p)).low = [] := by
  simp [Gen.SegSrc.send, envOf, h]

/-- a stack on which the switch was never set behaves like one with the switch off -/
theorem C05_source_unset_switch_is_off (buf arg : Bytes) (fuel : Nat) :
    receive ok fuel { self__read_buffer := buf, prop_PROP_ENABLED := none, data := arg } =
      { (receive ok fuel { self__read_buffer := buf, prop_PROP_ENABLED := some false, data := arg }) with prop_PROP_ENABLED := none } ∧
    Gen.SegSrc.send ok fuel { self__read_buffer := buf, prop_PROP_ENABLED := none, data := arg } =
      { (Gen.SegSrc.send ok fuel { self__read_buffer := buf, prop_PROP_ENABLED := some false, data := arg }) with prop_PROP_ENABLED := none } := by
  constructor
  · simp [receive]
  · by_cases h : 16777216 ≤ arg.length <;> simp [Gen.SegSrc.send, h]

/-- the handler of the lost connection empties the read buffer, and it is registered for the very event the network layer announces a
    lost connection with (both regenerated) -/
theorem C05_source_disconnect_drops_the_buffer (e : Env) (fuel : Nat) :
    (on_disconnected ok fuel e).self__read_buffer = [] ∧ networkDisconnectedEvent ∈ onDisconnectedEvents := by
  constructor
  · simp [on_disconnected]
  · simp [networkDisconnectedEvent, onDisconnectedEvents]

/-- run the translated `receive` over a list of chunks, the way the network layer calls it: the buffer is carried from call to call,
    everything handed upward is collected -/
def runSrc (s : St) (cs : List Bytes) : St × List Bytes :=
  cs.foldl (fun (acc : St × List Bytes) c =>
    let r := receive ok ((acc.1.buf ++ c).length + 1) (envOf acc.1 c)
    ({ acc.1 with buf := r.self__read_buffer }, acc.2 ++ r.up)) (s, [])

theorem runSrc_is_run (s : St) (cs : List Bytes) : runSrc s cs = run s cs := by
  unfold runSrc run
  congr 1
  funext acc c
  obtain ⟨h1, h2, _⟩ := C05_source_receive_is_the_model acc.1 c _ (Nat.lt_succ_self _)
  have hen : (recv acc.1 c).1.enabled = acc.1.enabled := by unfold recv; split <;> rfl
  simp only [h1, h2, ← hen]

/-- C05's main statement for the translated source: whatever way the stream of whole frames is cut into chunks, the current source's
    `receive`, called once per chunk, hands upward exactly the frames, in order, and ends with an empty buffer. -/
theorem C05_source_any_chunking (fs : List Bytes) (hfs : FramesOK fs) (cs : List Bytes) (hcs : cs.flatten = stream fs) :
    runSrc init cs = ({ enabled := true, buf := [] }, fs) := by
  rw [runSrc_is_run]; exact C05_any_chunking fs hfs cs hcs

/-- … and after a connection was lost in the middle of a frame: the handler empties the buffer, and the next connection's frames — any
    frames, any chunking — are handed up exactly. -/
theorem C05_source_after_a_lost_connection (e : Env) (fuel : Nat) (fs : List Bytes) (hfs : FramesOK fs) (cs : List Bytes)
    (hcs : cs.flatten = stream fs) :
    runSrc { enabled := true, buf := (on_disconnected ok fuel e).self__read_buffer } cs = ({ enabled := true, buf := [] }, fs) := by
  rw [(C05_source_disconnect_drops_the_buffer e fuel).1]
  exact C05_source_any_chunking fs hfs cs hcs

/-- The two directions of the current source fit together: what the translated `send` writes for a payload (framing on), cut into chunks in any
    way, is handed upward by the translated `receive` as exactly that payload. -/
theorem C05_source_send_then_receive (p : Bytes) (h0 : 0 < p.length) (h : p.length < 16777216) (cs : List Bytes)
    (hcs : cs.flatten = (Gen.SegSrc.send ok 0 (envOf init p)).low.flatten) :
    runSrc init cs = ({ enabled := true, buf := [] }, [p]) := by
  have hs := (C05_source_send_is_the_model init p 0).1
  rw [show init.enabled = true from rfl, C05_send_layout p h] at hs
  have hlow : (Gen.SegSrc.send ok 0 (envOf init p)).low = [be24 p.length, p] := by
    split at hs
    · cases hs
    · exact SendOut.writes.inj hs
  rw [runSrc_is_run]
  exact C05_send_then_recv p h0 h cs (by rw [hcs, hlow]; simp)

/-- non-vacuity: a concrete run of the translated code — two frames, cut inside the second header -/
example : (runSrc init [[0, 0, 2, 7, 8, 0], [0, 1], [9]]).2 = [[7, 8], [9]] ∧ (runSrc init [[0, 0, 2, 7, 8, 0], [0, 1], [9]]).1.buf = [] := by decide

/-- a frame that is not complete yet stays in the buffer and nothing is handed up (run of the translated code) -/
example : (receive ok 10 (envOf init [0, 0, 2, 7])).up = [] ∧ (receive ok 10 (envOf init [0, 0, 2, 7])).self__read_buffer = [0, 0, 2, 7] := by decide

end Yow.Segments
