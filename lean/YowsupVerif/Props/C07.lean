/-
  C07  Mandatory acknowledgements are sent exactly once and match the stanza.
  Lemmas: Lemmas/Routing.lean.  `Down.notificationAck true` is the ack
  carrying the notification's id, type, sender AND participant; the theorems hold for every module
  selection, with and without the encryption layers, and for EVERY notification type string
  (`NType.other` = any type the library does not know).
-/
import YowsupVerif.Props.C06
namespace Yow.Routing

theorem C07_handle_maps_match : Yow.Gen.handleMaps = handleMapSpec := C06_handle_maps_match

/-- Every incoming notification, recognised or not — including encrypt notifications consumed by the
    encryption layer — is answered with exactly one acknowledgement echoing id/type/from/participant.
    (A picture notification that is neither set nor delete is excluded, see below.) -/
theorem C07_notification_ack (f : Flags) (enc : Bool) (s : Stanza) (h : s.tag = .notification)
    (hpic : s.ntype = .picture → (s.cSet = true ∨ s.cDelete = true)) :
    (recvStack f enc s).1.downs = [.notificationAck true] ∧ (recvStack f enc s).2 = false := by
  rcases recvStack_cases f enc s with e | e <;> rw [e]
  · exact ⟨rfl, rfl⟩
  · obtain ⟨u, hu⟩ := recvContacts_upOnly s
    obtain ⟨v, hv⟩ := recvGroups_upOnly s
    have hn : ∃ w, recvNotifications s = some { ups := w, downs := [.notificationAck true] } := by
      simp only [recvNotifications, h]
      split
      · -- picture: set or delete by `hpic`, each with its entity and the ack
        rcases hpic ‹_› with c | c
        · simp [c]
        · cases s.cSet <;> simp [c]
      all_goals simp [down]
    obtain ⟨w, hw⟩ := hn
    rw [h]
    simp only [recvOwners, runAll_eq_foldr, List.foldr_append, List.foldr_cons, List.foldr_nil, foldr_opt, hu, hv, hw,
      answerThen_some]
    cases f.groups <;> simp [Out.append]

/-- … which is rejected with an error by design: nothing is acknowledged. -/
theorem C07_picture_without_set_or_delete_rejected (f : Flags) (enc : Bool) (s : Stanza) (h : s.tag = .notification)
    (hp : s.ntype = .picture) (h1 : s.cSet = false) (h2 : s.cDelete = false) :
    (recvStack f enc s).2 = true ∧ (recvStack f enc s).1.downs = [] := by
  simp [recvStack, runAll_recvHandlers, recvOwners, runAll, recvNotifications, h, hp, h1, h2]

/-- Every call offer is answered with one receipt naming the call id, every other call stanza with one ack. -/
theorem C07_call_answered (f : Flags) (enc : Bool) (s : Stanza) (h : s.tag = .call) :
    recvStack f enc s = ({ ups := [.call], downs := [if s.callOffer then .callReceipt else .callAck] }, false) := by
  rw [recvStack_of_ne f enc (by simp [h]), h]
  cases hc : s.callOffer <;> simp [recvOwners, runAll, recvCalls, h, hc]

/-- Every server ping gets exactly one pong with the same id. -/
theorem C07_ping_pong (f : Flags) (enc : Bool) (s : Stanza) (h : s.tag = .iq) (hx : s.xmlns = .ping) :
    (recvStack f enc s).1.downs = [.pong] ∧ (recvStack f enc s).2 = false := by
  obtain ⟨u, hu⟩ := recvContacts_upOnly s
  rw [recvStack_of_ne f enc (by simp [h]), h]
  simp [recvOwners, runAll, recvIq, h, hx, hu, down, Out.append]

/-- A message whose content the library cannot present (payload other than text / extended text /
    supported media / pure key distribution) is answered with exactly one receipt instead of being
    dropped; an unsupported media type likewise when the media module is present and the payload is not
    a sender key distribution on its own.  A key-distribution-only payload in a message of type media
    is not content at all: it never surfaces and is not answered with a receipt (nothing raises),
    whatever the media kind attribute says. -/
theorem C07_unsupported_payload_receipt (f : Flags) (enc : Bool) (s : Stanza) (h : MessageWF s) :
    (s.media = .absent → s.payload = .other → recvStack f enc s = ({ downs := [.messageReceipt] }, false)) ∧
    (s.media = .other → s.payload ≠ .keyDistributionOnly →
      recvStack f enc s = ({ downs := if f.media then [.messageReadReceipt] else [] }, false)) ∧
    (s.mtype = .media → s.hasProto = true → s.payload = .keyDistributionOnly → recvStack f enc s = ({}, false)) :=
  ⟨(C06_incoming_messages f enc s h).2.2.2.1, (C06_incoming_messages f enc s h).2.2.2.2.2.1, (C06_incoming_messages f enc s h).2.2.2.2.2.2⟩

example : ({ tag := .notification, ntype := .other } : Stanza).tag = .notification := rfl

end Yow.Routing
