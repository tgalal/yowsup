/-
  C09  Protocol entities and stanzas convert into each other without loss.
  Clause 1 (stanza -> entity -> stanza reproduces the stanza) instantiates the generic converter theorems
  (Lemmas/Payload.lean) on the per-class field tables regenerated from the current source (Gen/EntityTable.lean:
  every variable field of each class's documented-shape stanza probed through fromProtocolTreeNode / toProtocolTreeNode);
  `knownBadEntities` names the classes left out.
  Clause 2 (produced stanzas survive the binary codec) is C01's round-trip theorem; that the stanzas entities produce
  lie in its domain is established by the correspondence run (real encoder and Lean codec model on every produced stanza).
-/
import YowsupVerif.Lemmas.Payload
import YowsupVerif.Gen.EntityTable
import YowsupVerif.Props.C01
namespace Yow.Payload

/-- classes with a recorded finding (DESIGN §8): none at present (the ib entities' `from` was repaired by fix 5552326) -/
def knownBadEntities : List String := []

def badIndices (names bad : List String) : List Nat :=
  (List.range names.length).filter (fun i => bad.contains (names.getD i ""))

/-- every variable field of every other incoming entity class of the current source is carried through
    stanza -> entity -> stanza unchanged: required fields both ways, optional fields absent iff absent (kernel-decided on
    the regenerated table) -/
theorem C09_source_tables_good :
    tableGood Yow.Gen.entityTable (badIndices Yow.Gen.entityNames knownBadEntities) = true :=
  tableGood_of_check (by decide +kernel)

/-- For every such class and EVERY stanza of its documented shape (any values of the variable fields, any subset of the
    optional attributes): converting to the entity and serialising again yields a stanza with exactly the same fields
    present, and reading it again gives the same entity — no field is lost or altered. -/
theorem C09_stanza_entity_stanza (cid : Nat) (p : PFields)
    (hp : pwtObj Yow.Gen.entityTable (badIndices Yow.Gen.entityNames knownBadEntities) cid p = true) :
    ∃ p', encodeObj Yow.Gen.entityTable cid (decodeObj Yow.Gen.entityTable cid p) = some p' ∧
      decodeObj Yow.Gen.entityTable cid p' = decodeObj Yow.Gen.entityTable cid p ∧
      ∀ k, (plookup p' k).isSome = (plookup p k).isSome :=
  reserialise _ _ C09_source_tables_good cid p hp

end Yow.Payload

namespace Yow
open Yow.Coder in
/-- Every stanza within the codec's domain — which the correspondence run shows the stanzas produced by entities to be —
    is accepted by the encoder and decodes to itself (C01's theorem, restated for this property's second clause). -/
theorem C09_produced_stanza_survives_codec (inflate : Bytes → Option Bytes) (n : Node) (hn : WFNode Gen.waDict n) :
    encodable Gen.waDict n = true ∧ decodeFrame Gen.waDict inflate (encodeFrame Gen.waDict n) = .ok n :=
  ⟨C01_encoder_accepts Gen.waDict n hn, C01_roundtrip_wa inflate n hn⟩
end Yow
