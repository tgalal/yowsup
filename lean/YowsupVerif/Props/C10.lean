/-
  C10  Message payloads: attribute objects and protobuf bytes round-trip.
  The general theorems are in Lemmas/Payload.lean.  The schema table is regenerated from the current source on
  every run by probing the converter one field at a time (Gen/PayloadSchema.lean); `C10_source_table_good` is the
  obligation that ties the general theorems to it, `knownBadSchemas` the schemas it leaves out.
-/
import YowsupVerif.Lemmas.Payload
import YowsupVerif.Gen.PayloadSchema
namespace Yow.Payload

/-- schemas with a recorded finding (DESIGN §8): 5 = document (its own `file_length` and the downloadable attributes'
    `file_length` are written to the same proto field) -/
def knownBadSchemas : List Nat := [5]

/-- every field of every other schema of the current source is converted by a matching pair of rules — required both
    ways, or "set iff not None" / "read iff present" — to and from the same proto field, no two fields share a proto
    field, nothing raises, nested kinds are valid (kernel-decided on the regenerated table) -/
theorem C10_source_table_good : tableGood Yow.Gen.payloadTable knownBadSchemas = true :=
  tableGood_of_check (by decide +kernel)

/-- Whatever content the application composes — any of the message kinds, all optional-field subsets, arbitrary values
    incl. empty strings, zeros and empty blobs (scalar 0), any nesting depth of quoted messages — serialising it and
    parsing it back yields the same content. -/
theorem C10_compose_roundtrip (sid : Nat) (v : Val) (hw : wtObj Yow.Gen.payloadTable knownBadSchemas sid v = true) :
    ∃ p, encodeObj Yow.Gen.payloadTable sid v = some p ∧ decodeObj Yow.Gen.payloadTable sid p = v :=
  roundtrip _ _ C10_source_table_good sid v hw

/-- A payload received from a peer is re-serialised without changing any field the library models: the same fields are
    present and they parse to the same values. -/
theorem C10_reserialise_unchanged (sid : Nat) (p : PFields) (hp : pwtObj Yow.Gen.payloadTable knownBadSchemas sid p = true) :
    ∃ p', encodeObj Yow.Gen.payloadTable sid (decodeObj Yow.Gen.payloadTable sid p) = some p' ∧
      decodeObj Yow.Gen.payloadTable sid p' = decodeObj Yow.Gen.payloadTable sid p ∧
      ∀ k, (plookup p' k).isSome = (plookup p k).isSome :=
  reserialise _ _ C10_source_table_good sid p hp

/-- Sensitivity: with a truth test instead of a None test an empty string is lost; with an unconditional read an unset
    field comes back as the default. -/
theorem C10_bad_rules_lose_values :
    (let f : Field := { kind := .scalar, fwd := .truthy, bwd := .truthy, target := 1, source := 1, raises := false }
     (encodeObj [[f]] 0 (.obj (.cons (.scalar 0) .nil))).map (decodeObj [[f]] 0) = some (.obj (.cons .none .nil))) ∧
    (let f : Field := { kind := .scalar, fwd := .notNone, bwd := .always, target := 1, source := 1, raises := false }
     (encodeObj [[f]] 0 (.obj (.cons .none .nil))).map (decodeObj [[f]] 0) = some (.obj (.cons (.scalar 0) .nil))) := by
  constructor <;>
    simp [encodeObj, encodeFields, decodeObj, decodeSchema, decodeField, defaultOf]

end Yow.Payload
