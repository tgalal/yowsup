/-
  C11  Concurrent senders never corrupt the encrypted stream.
  Property theorems only.  Any number of sender threads, any stanza sequences, EVERY schedule: the layers' locks
  (lemmas: Lemmas/Conc.lean) and, below them, the dispatcher's send buffer (lemmas: Lemmas/SendBuf.lean).
  `C11_source_locking` ties the theorems to the current source: the lock configuration observed by running the current
  layers (which locks are held at the encryption and at the two network writes; Gen/ConcCfg.lean) has the outer lock.
-/
import YowsupVerif.Lemmas.Conc
import YowsupVerif.Gen.ConcCfg
import YowsupVerif.Lemmas.SendBuf
import YowsupVerif.Gen.SendBufCfg
namespace Yow.Conc

/-- in the current source a sender holds one lock from before the encryption until after the payload write, and the
    noise layer's lock across both writes of a segment -/
theorem C11_source_locking : Yow.Gen.concCfg = { outer := true, inner := true } := by decide

/-- The bytes reaching the socket are always a sequence of whole frames — each length header immediately followed by its
    own payload — in the order of their cipher counters (plus at most the header of the frame in progress). -/
theorem C11_stream_always_well_framed (work : List (List Nat)) (sched : List Nat) :
    let s := run (init Yow.Gen.concCfg work) sched
    (wellFramed s.wire 0 = true) ∨
    (∃ w f, s.wire = w ++ [.hdr f] ∧ wellFramed w 0 = true ∧ f.ctr * 2 = w.length) := by
  rw [C11_source_locking]; exact (inv_reach true work sched).wire

/-- Each stanza sent is transmitted exactly once, the peer can decrypt every frame (counters 0,1,2,… in wire order), and
    each thread's stanzas keep their order. -/
theorem C11_every_stanza_exactly_once (work : List (List Nat)) (sched : List Nat)
    (hf : finished (run (init Yow.Gen.concCfg work) sched) = true) :
    let s := run (init Yow.Gen.concCfg work) sched
    wellFramed s.wire 0 = true ∧ (stanzasOnWire s.wire).Perm (allStanzas work) ∧
    ∀ i, i < work.length → (work.getD i []).Sublist (stanzasOnWire s.wire) := by
  rw [C11_source_locking] at hf ⊢; exact (inv_reach true work sched).exactly_once hf

/-- No schedule deadlocks. -/
theorem C11_no_deadlock (work : List (List Nat)) (sched : List Nat)
    (hf : finished (run (init Yow.Gen.concCfg work) sched) = false) :
    ∃ i, step (run (init Yow.Gen.concCfg work) sched) i ≠ run (init Yow.Gen.concCfg work) sched := by
  rw [C11_source_locking] at hf ⊢; exact (inv_reach true work sched).progress hf

/-- Sensitivity: what the locks are for. -/
theorem C11_locks_are_needed :
    (∃ sched, let s := run (init { outer := false, inner := true } [[7], [8]]) sched
      finished s = true ∧ wellFramed s.wire 0 = false) ∧
    (∃ sched, let s := run (init { outer := false, inner := false } [[7], [8]]) sched
      finished s = true ∧ ∃ f g, f ≠ g ∧ ∃ a b, s.wire = a ++ [.hdr f, .hdr g] ++ b) :=
  ⟨⟨[0, 1, 1, 1, 1, 1, 1, 1, 0, 0, 0, 0, 0, 0], by decide⟩,
    ⟨[0, 0, 1, 1, 0, 1, 0, 1, 0, 1], by decide, ⟨0, 7⟩, ⟨1, 8⟩, by decide, [], [.pay ⟨0, 7⟩, .pay ⟨1, 8⟩], by decide⟩⟩

end Yow.Conc

namespace Yow.SendBuf

/-- in the current source every access to the dispatcher's send buffer — the append of sendData (a load and a store) as well as
    reading, sending and cutting in a flush — happens under one lock, for the sending threads and the asyncore loop thread alike
    (observed on a real dispatcher over a socket pair; Gen/SendBufCfg.lean) -/
theorem C11_socket_buffer_locked : Yow.Gen.sendBufCfg = { locked := true, appendLocked := true } := by decide

/-- Below the network layer: for every schedule of the sending threads and the asyncore loop thread and every sequence of partial
    socket writes, the bytes handed to the dispatcher are on the socket or still buffered, each exactly once, in order (while a
    flush is between its send and its cut the sent prefix is still in the buffer: `k`); whenever no flush is in progress, and in
    particular when both threads have finished, socket ++ buffer is exactly what was handed over; nothing deadlocks. -/
theorem C11_socket_bytes_exactly_once (frames : List (List Nat)) (flushes : Nat) (sched : List (Nat × Nat)) :
    let s := run (init Yow.Gen.sendBufCfg frames flushes) sched
    (∃ k, k ≤ s.buf.length ∧ s.socket ++ s.buf.drop k = s.appended) ∧
    (s.lock = none → s.socket ++ s.buf = s.appended) ∧
    (finished s = true → s.socket ++ s.buf = frames.flatten) ∧
    (finished s = false → ∃ i, ∀ cap, step s i cap ≠ s) := by
  rw [C11_socket_buffer_locked]
  have h := inv_reach frames flushes sched
  exact ⟨h.socket_append_drop, h.free, h.exact_of_finished, h.progress⟩

/-- Sensitivity: without the lock the loop thread and a sender put the same bytes on the socket twice (and the second cut then
    drops bytes that were never sent). -/
theorem C11_unlocked_buffer_duplicates :
    ∃ sched, let s := run (init { locked := false, appendLocked := false } [[1, 2, 3], [4, 5]] 1) sched
      finished s = true ∧ s.socket ++ s.buf ≠ [1, 2, 3, 4, 5] :=
  ⟨[(0, 65536), (0, 65536), (0, 65536), (1, 65536), (0, 65536), (1, 65536), (1, 65536), (0, 65536), (0, 65536), (0, 65536),
    (0, 65536), (0, 65536), (0, 65536)], by decide⟩

/-- Sensitivity: with the flush locked but the append outside the lock, a partial send leaves a byte in the buffer, the sender
    loads the buffer for its next append, the loop thread flushes that byte, and the sender's store puts it back — it is sent
    twice. -/
theorem C11_append_outside_lock_repeats :
    ∃ sched, let s := run (init { locked := true, appendLocked := false } [[1, 2], [3]] 1) sched
      finished s = true ∧ s.socket ++ s.buf ≠ [1, 2, 3] :=
  ⟨[(0, 65536), (0, 65536), (0, 65536), (0, 65536), (0, 1), (0, 65536), (0, 65536), (0, 65536), (1, 65536), (1, 65536),
    (1, 65536), (1, 65536), (1, 65536), (0, 65536), (0, 65536), (0, 65536), (0, 65536), (0, 65536), (0, 65536)], by decide⟩

end Yow.SendBuf
