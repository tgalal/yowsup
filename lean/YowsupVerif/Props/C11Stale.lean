/-
  C11  (senders against the replacement of the connection): no frame encrypted for a lost session is ever written to the connection
  that replaced it, whatever the schedule.  Property theorems only (lemmas: Lemmas/StaleWrite.lean); the configuration — are the
  stale-stream check and the write one step with respect to on_disconnected? — is regenerated from the current source by executing it with
  tracked locks (Gen/StaleWriteCfg.lean).
-/
import YowsupVerif.Lemmas.StaleWrite
import YowsupVerif.Gen.StaleWriteCfg
namespace Yow.Stale

/-- The current source performs the check and the write under a lock that the replacement of the stream takes as well (regenerated obligation). -/
theorem C11_current_source_checks_and_writes_in_one_step : Yow.Gen.staleWriteCfg = { atomic := true } := by decide

/-- For every number of sender threads and stanzas, every number of connection losses and new logins, and EVERY schedule: each frame that
    reaches the network was encrypted for the connection it is written to — the peer of a connection never receives a frame of an earlier
    session (which it could not decrypt, and which would put its counter out of step). -/
theorem C11_no_frame_of_a_lost_session (work : List (Option Nat)) (sched : List Nat) :
    Clean (run (init Yow.Gen.staleWriteCfg work) sched).wire := by
  rw [C11_current_source_checks_and_writes_in_one_step]
  exact (inv_run (inv_init work) sched).clean

/-- Sensitivity (the defect repaired by be5470f): with the check and the write as two steps, a sender held up between them while the
    connection is replaced writes a frame of session 0 to connection 1. -/
theorem C11_check_then_write_is_not_one_step :
    (run (init { atomic := false } [some 1, none]) [0, 0, 1, 0]).wire = [(1, 0)] ∧
    ¬ Clean (run (init { atomic := false } [some 1, none]) [0, 0, 1, 0]).wire := by
  decide

/- non-vacuity: senders on both sides of a connection loss; a sender that entered before the loss and reaches its check after it writes nothing -/
example : (run (init { atomic := true } [some 2, none, some 1]) [0, 0, 1, 0, 0, 0, 1, 1, 1, 0, 0, 0, 0, 0, 2, 2, 2, 2, 2]).wire = [(0, 0), (1, 1), (1, 1)] := by decide
example : (run (init { atomic := true } [some 1, none]) [0, 1, 1, 1, 0, 0, 0, 0]).wire = [] := by decide

end Yow.Stale
