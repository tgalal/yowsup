/-
  C12  A failure while sending or receiving does not wedge the stack.
  Property theorems only (lemmas: Lemmas/Locks.lean).  `n` layers, noise layer at index `p < n`,
  failures injected at any layer, in either direction, at any position of any operation sequence.
  The configuration (are the two release sites protected by try/finally?) is regenerated from the
  current source by executing it (Gen/LockCfg.lean).
-/
import YowsupVerif.Lemmas.Locks
import YowsupVerif.Gen.LockCfg
namespace Yow.Locks

/-- The current source releases both locks on the exception path (regenerated obligation). -/
theorem C12_current_source_releases_in_finally : Yow.Gen.lockCfg = good := by decide

/-- After every operation of every sequence — normal or failing, at any layer, in either direction —
    no layer lock and no flush lock is held. -/
theorem C12_locks_free_after_any_outcome (spec : Nat → UpSpec) (n p : Nat) (hp : p < n) (ops : List Op) :
    AllFree (run Yow.Gen.lockCfg spec n p (init n) ops).1 := by
  rw [C12_current_source_releases_in_finally]
  exact (run_good spec n p hp (init n) (init_allFree n) ops).1

/-- Nothing ever blocks: no operation of any sequence ends waiting on a held lock. -/
theorem C12_nothing_blocks_forever (spec : Nat → UpSpec) (n p : Nat) (hp : p < n) (ops : List Op) :
    ∀ r ∈ (run Yow.Gen.lockCfg spec n p (init n) ops).2, r ≠ Res.blocked := by
  rw [C12_current_source_releases_in_finally]
  exact (run_good spec n p hp (init n) (init_allFree n) ops).2

/-- A failure on the way down reaches the caller (it is not swallowed), and leaves the state as it was. -/
theorem C12_error_reaches_caller (n k : Nat) (hk : k ≤ n - 1) (s : St) (h : AllFree s) :
    sendAt Yow.Gen.lockCfg (some k) (n - 1) s = (s, Res.raised) := by
  rw [C12_current_source_releases_in_finally, sendAt_good (some k) (n - 1) s (AllFree_FreeBelow h (n - 1))]
  simp [onPath, hk]

/-- Follow-up operations complete normally after any history of failures: a later send goes through … -/
theorem C12_followup_send_completes (spec : Nat → UpSpec) (n p : Nat) (hp : p < n) (ops : List Op) :
    step Yow.Gen.lockCfg spec n p (run Yow.Gen.lockCfg spec n p (init n) ops).1 (.send none)
      = ((run Yow.Gen.lockCfg spec n p (init n) ops).1, Res.ok) := by
  have hs := C12_locks_free_after_any_outcome spec n p hp ops
  rw [C12_current_source_releases_in_finally] at hs ⊢
  show sendAt good none (n - 1) _ = _
  rw [sendAt_good none (n - 1) _ (AllFree_FreeBelow hs (n - 1))]
  simp [onPath]

/-- … and a later incoming frame is delivered, together with every frame still waiting in the queue
    (frames left behind by an earlier failure are not lost), in order; afterwards all locks are free. -/
theorem C12_followup_receive_completes (spec : Nat → UpSpec) (n p : Nat) (hp : p < n) (ops : List Op) (frame : Nat)
    (hq : ∀ f ∈ (run Yow.Gen.lockCfg spec n p (init n) ops).1.queue ++ [frame],
      (spec f).failAt = none ∧ (spec f).replyFail = none) :
    (step Yow.Gen.lockCfg spec n p (run Yow.Gen.lockCfg spec n p (init n) ops).1 (.recv frame)).2 = Res.ok ∧
    (step Yow.Gen.lockCfg spec n p (run Yow.Gen.lockCfg spec n p (init n) ops).1 (.recv frame)).1.queue = [] ∧
    (step Yow.Gen.lockCfg spec n p (run Yow.Gen.lockCfg spec n p (init n) ops).1 (.recv frame)).1.delivered =
      (run Yow.Gen.lockCfg spec n p (init n) ops).1.delivered ++ (run Yow.Gen.lockCfg spec n p (init n) ops).1.queue ++ [frame] ∧
    AllFree (step Yow.Gen.lockCfg spec n p (run Yow.Gen.lockCfg spec n p (init n) ops).1 (.recv frame)).1 := by
  have hs := C12_locks_free_after_any_outcome spec n p hp ops
  rw [C12_current_source_releases_in_finally] at hs hq ⊢
  obtain ⟨a, b, c⟩ := followup_receive_good spec n p hp _ hs frame hq
  exact ⟨a, b, c, (step_good spec n p hp _ hs (.recv frame)).1⟩

/-- Why both `finally` clauses are needed (the defects repaired by 89df47a and 0070419, kept as model witnesses):
    without the one in `toLower`, one failing send leaves locks held and the next send blocks; … -/
theorem C12_leak_witness_toLower :
    (run { toLowerFinally := false, flushFinally := true } (fun _ => ⟨none, none, none⟩) 4 1 (init 4)
      [.send (some 0), .send none]).2 = [Res.raised, Res.blocked] := by decide

/-- … without the one in `_flush_incoming_buffer`, one failing receive blocks every later frame. -/
theorem C12_leak_witness_flush :
    (run { toLowerFinally := true, flushFinally := false }
      (fun f => if f = 1 then ⟨some 3, none, none⟩ else ⟨none, none, none⟩) 4 1 (init 4)
      [.recv 1, .recv 2]).2 = [Res.raised, Res.blocked] := by decide

/- the hypotheses `p < n` and `AllFree s` of the theorems above, at the witnesses' parameters and initial state -/
example : (1 : Nat) < 4 := by decide
example : AllFree (init 4) := init_allFree 4

end Yow.Locks
