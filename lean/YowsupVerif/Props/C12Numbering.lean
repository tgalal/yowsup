/-
  C12  (downward path, "oversized frame"): a send that is refused leaves the transport cipher in step with the peer, so later sends
  are processed normally.  Property theorems only (lemmas: Lemmas/SendNumbering.lean); the configuration — does the noise layer check
  the size before it encrypts? — is regenerated from the current source by executing it (Gen/SendNumberingCfg.lean).
-/
import YowsupVerif.Lemmas.SendNumbering
import YowsupVerif.Gen.SendNumberingCfg
namespace Yow.SendNumbering

/-- The current source refuses an oversized payload before it encrypts it (regenerated obligation). -/
theorem C12_current_source_checks_size_before_encrypting : Yow.Gen.sizeCheckFirst = true := by decide

/-- Whatever is sent, in whatever order, of whatever sizes — refused or not: frame k on the wire carries the cipher's message
    number k and the cipher's next number is the number of frames written, i.e. the peer can decrypt every frame that was
    written and every frame that will be. -/
theorem C12_refused_sends_keep_cipher_in_step (sizes : List Nat) :
    InStep (run Yow.Gen.sizeCheckFirst {} sizes) := by
  rw [C12_current_source_checks_size_before_encrypting]
  exact run_inStep sizes {} ⟨rfl, rfl⟩

/-- An oversized payload is refused and changes nothing; anything smaller is written under the next number. -/
theorem C12_oversized_refused_without_trace (s : St) (size : Nat) (h : limit ≤ size + 16) :
    send Yow.Gen.sizeCheckFirst s size = (s, true) := by
  rw [C12_current_source_checks_size_before_encrypting]
  simp [send, h]

theorem C12_sized_send_is_written (s : St) (size : Nat) (h : size + 16 < limit) :
    send Yow.Gen.sizeCheckFirst s size = ({ next := s.next + 1, wire := s.wire ++ [s.next] }, false) := by
  have : ¬ limit ≤ size + 16 := by omega
  simp [send, this]

/-- Sensitivity (the defect repaired by f9c2d56): encrypting before the size check, one refused send is enough — the next frame goes
    out under number 1 while the peer expects number 0. -/
theorem C12_encrypt_before_size_check_wedges :
    (run false {} [limit, 5]).wire = [1] ∧ ¬ InStep (run false {} [limit, 5]) := by
  decide

/- a run with refused and accepted sends -/
example : run true {} [3, limit, 7, limit + 9, 2] = { next := 3, wire := [0, 1, 2] } := by decide

end Yow.SendNumbering
