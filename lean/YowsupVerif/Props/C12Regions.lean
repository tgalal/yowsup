/-
  C12 (clause "no lock stays held after a failure"), for EVERY lock region of the library, not only the two on the data paths that
  Model/Locks.lean models in depth.  Property theorems and the one lemma they rest on (`good_released`); the table of regions is regenerated from the syntax of the current source on every
  run (Gen/LockRegions.lean).
-/
import YowsupVerif.Model.LockRegions
import YowsupVerif.Gen.LockRegions
namespace Yow.LockRegions

/-- A region that is guarded by construction, or whose statements cannot raise and do not leave without releasing, has released its
    lock at the end of every possible execution. -/
theorem good_released (r : Region) (h : r.good = true) (raises : Nat → Bool) (hp : Possible r raises) : released r raises = true := by
  unfold Region.good at h
  unfold released
  cases hpr : r.guarded with
  | true => simp
  | false =>
    rw [hpr] at h
    simp only [Bool.false_or, List.all_eq_true] at h
    simp only [Bool.false_or, Bool.and_eq_true, List.all_eq_true, List.mem_range, Bool.not_eq_true']
    constructor
    · intro i hi
      cases hr : raises i with
      | false => rfl
      | true =>
        obtain ⟨s, hs, hc⟩ := hp i hr
        have hm : s ∈ r.stmts := List.mem_of_getElem? hs
        rw [h s hm] at hc
        cases hc
    · cases hc : r.stmts.contains Stmt.noRelease with
      | false => rfl
      | true =>
        have hm : Stmt.noRelease ∈ r.stmts := by simpa using hc
        have := h _ hm
        simp [Stmt.cannotRaise] at this

/-- Regenerated obligation: every lock region of the library's own code (demos excluded) releases its lock on the exception path by construction,
    or holds only statements that cannot raise. -/
theorem C12_every_lock_region_of_the_library_is_safe :
    ∀ r ∈ Yow.Gen.lockRegions, r.library = true → r.good = true := by decide

/-- Whatever happens inside any lock region of the library — in every execution in which only statements that can raise do raise — the lock is
    released when control leaves the region: no failure leaves a lock of the library held. -/
theorem C12_no_lock_region_leaves_its_lock_held (r : Region) (hr : r ∈ Yow.Gen.lockRegions) (hl : r.library = true)
    (raises : Nat → Bool) (hp : Possible r raises) : released r raises = true :=
  good_released r (C12_every_lock_region_of_the_library_is_safe r hr hl) raises hp

/-- Sensitivity (seed C12-13): `del self._pingQueue[pingId]` between a bare acquire / release pair — the execution in which the key is missing
    is possible, and it leaves the lock held. -/
theorem C12_bare_region_with_a_raising_statement_leaks :
    let r : Region := { file := "", fn := "gotPong", lock := "self._pingQueueLock", library := true, guarded := false, stmts := [.delItem] }
    r.good = false ∧ released r (fun i => i == 0) = false ∧ Possible r (fun i => i == 0) := by
  refine ⟨by decide, by decide, ?_⟩
  intro i hi
  have : i = 0 := by simpa using hi
  subst this
  exact ⟨.delItem, rfl, rfl⟩

/- Non-vacuity: the table has unprotected regions that the obligation has to argue about. -/
example : ∃ r ∈ Yow.Gen.lockRegions, r.library = true ∧ r.guarded = false := by decide

end Yow.LockRegions
