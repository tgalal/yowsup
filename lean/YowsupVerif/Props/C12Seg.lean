/-
  C12, segment layer: a failure while a frame is handed upward does not lose, repeat or reorder any other frame.
  Property theorems only (lemmas: Lemmas/SegmentsF.lean) about `peelF` / `recvF` / `runF` of Model/Segments.lean: `receive`
  cuts a frame off its buffer before handing it upward; when the layers above raise (`bad f`), the call ends with the
  exception and the rest of the buffer waits for the next call.  All statements hold for every set of failing frames, every
  list of frames and every way the network splits the byte stream into chunks.
-/
import YowsupVerif.Lemmas.SegmentsF
import YowsupVerif.Props.C05
namespace Yow.Segments

/-- Safety: at every moment — any chunking of any prefix of the stream — what has been handed upward is a prefix of the frames
    the peer sent: nothing else, nothing twice, nothing out of order, whichever frames failed. -/
theorem C12_seg_handed_is_prefix (bad : Bytes → Bool) (fs : List Bytes) (hfs : FramesOK fs) (cs : List Bytes) (tail : Bytes)
    (hcs : cs.flatten ++ tail = stream fs) :
    ∃ rest, (runF bad {} cs).handed ++ rest = fs := by
  obtain ⟨d, t, _, rfl, hrun, _⟩ := runF_inv bad cs [] [] 0 fs hfs tail hcs
  exact ⟨t, by rw [show runF bad {} cs = _ from hrun]; rfl⟩

/-- Liveness: once the whole stream has arrived, at most one further call per failing frame (even with no new data) hands up
    every frame — each exactly once, in order; each failing frame raised exactly once; the buffer is empty. -/
theorem C12_seg_all_handed_after_retries (bad : Bytes → Bool) (fs : List Bytes) (hfs : FramesOK fs) (cs : List Bytes)
    (hcs : cs.flatten = stream fs) (n : Nat) (hn : (fs.filter bad).length ≤ n) :
    runF bad {} (cs ++ List.replicate n []) = { buf := [], handed := fs, raises := (fs.filter bad).length } := by
  -- the empty reads are streams of no frames
  simpa [stream] using runF_all_handed bad fs hfs cs hcs (List.replicate n []) (by simp [FramesOK]) (by simpa using hn)

/-- The same with later traffic instead of empty reads: when more fault-free frames arrive afterwards, one per network read and
    more of them than frames failed, everything — the earlier frames and the later ones — has been handed up once and in order. -/
theorem C12_seg_all_handed_after_later_frames (bad : Bytes → Bool) (fs gs : List Bytes) (hfs : FramesOK fs) (hgs : FramesOK gs)
    (hgood : ∀ g ∈ gs, bad g = false) (cs : List Bytes) (hcs : cs.flatten = stream fs) (hn : (fs.filter bad).length < gs.length) :
    runF bad {} (cs ++ gs.map frame) = { buf := [], handed := fs ++ gs, raises := (fs.filter bad).length } := by
  -- one later frame per read: each chunk is the stream of a single frame
  have hone : gs.map frame = (gs.map fun g => [g]).map stream := by simp [stream]
  rw [hone, runF_all_handed bad fs hfs cs hcs _ (by simpa [FramesOK] using fun g hg => ⟨hgs g hg, hgood g hg⟩)
    (by simpa using Nat.le_of_lt hn), ← List.flatMap_def, List.flatMap_singleton']

/-- Without failures this is the receive path of C05. -/
theorem C12_seg_no_failure_is_C05 (cs : List Bytes) :
    (runF (fun _ => false) {} cs).handed = (run init cs).2 ∧ (runF (fun _ => false) {} cs).buf = (run init cs).1.buf ∧
    (runF (fun _ => false) {} cs).raises = 0 := by
  rw [show runF (fun _ => false) {} cs = _ from runF_never cs [] []]
  exact ⟨rfl, rfl, rfl⟩

/- Non-vacuity: three frames, the middle one failing, cut inside the second header. -/
example :
    let fs : List Bytes := [[7], [8, 9], [5]]
    let bad : Bytes → Bool := fun f => f == [8, 9]
    FramesOK fs ∧ ([[0, 0, 1, 7, 0], [0, 2, 8, 9, 0, 0, 1, 5]] : List Bytes).flatten = stream fs ∧
    runF bad {} [[0, 0, 1, 7, 0], [0, 2, 8, 9, 0, 0, 1, 5]] = { buf := [0, 0, 1, 5], handed := [[7], [8, 9]], raises := 1 } ∧
    runF bad {} [[0, 0, 1, 7, 0], [0, 2, 8, 9, 0, 0, 1, 5], []] = { buf := [], handed := fs, raises := 1 } := by
  refine ⟨?_, by decide, by decide +kernel, by decide +kernel⟩
  intro f hf; revert f; decide

end Yow.Segments
