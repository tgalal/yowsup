/-
  C12, segment layer, on the TEXT of the current source (Gen/SegmentsSrc.lean, regenerated by harness/gen/segsrc.py): the translated
  `receive`, run with layers above that raise on the frames `bad`, computes the model's `recvF`; the theorems of Props/C12Seg.lean are
  therefore theorems about the current source's `receive`, run chunk by chunk (`runFSrc`).
  The lemmas about the translated loop are in Lemmas/SegmentsSrc.lean.
-/
import YowsupVerif.Lemmas.SegmentsSrc
import YowsupVerif.Props.C12Seg
import YowsupVerif.Props.C05Src
namespace Yow.Segments
open Yow.Gen.SegSrc

/-- `receive` of the current source, with framing on and layers above that raise exactly on the frames `bad`, computes `recvF`: the same
    buffer is left (a failing frame has been cut off it BEFORE it was handed up), the same frames were handed up in the same order — the failing
    one last —, the call raised exactly when the model says so, nothing was written downward, and the fuel never cuts the loop off. -/
theorem C12_source_receive_is_the_failing_model (bad : Bytes → Bool) (buf chunk : Bytes) (fuel : Nat) (hf : (buf ++ chunk).length < fuel) :
    let r := receive bad fuel { self__read_buffer := buf, prop_PROP_ENABLED := some true, data := chunk }
    r.self__read_buffer = (recvF bad buf chunk).1 ∧ r.up = (recvF bad buf chunk).2.1 ∧ r.raised = (recvF bad buf chunk).2.2 ∧
    r.low = [] ∧ r.fuelOut = false := by
  obtain ⟨h1, h2, h3, h4, _, h6, _⟩ := receive_on bad fuel buf chunk hf
  exact ⟨h1, h2, h3, h4, h6⟩

/-- one call of the translated `receive` per chunk, the caller catching the exception and calling again with the next chunk
    (`runReceiveF`, `bufOf` of Gen/SegmentsSrc.lean: `receive` with framing on and fuel above the buffer's length; the read buffer) -/
def runFSrc (bad : Bytes → Bool) (s : RunF) : List Bytes → RunF
  | [] => s
  | c :: cs =>
    let r := runReceiveF bad s.buf c
    runFSrc bad { buf := bufOf r, handed := s.handed ++ r.up, raises := s.raises + (if r.raised then 1 else 0) } cs

theorem runFSrc_is_runF (bad : Bytes → Bool) (s : RunF) (cs : List Bytes) : runFSrc bad s cs = runF bad s cs := by
  induction cs generalizing s with
  | nil => rfl
  | cons c cs ih =>
    have h := C12_source_receive_is_the_failing_model bad s.buf c ((s.buf ++ c).length + 1) (by omega)
    simp only at h
    obtain ⟨h1, h2, h3, _, _⟩ := h
    simp only [runFSrc, runF, runReceiveF, bufOf, h1, h2, h3]
    exact ih _

/-- Safety for the current source: at every moment what its `receive` has handed upward is a prefix of the frames the peer sent — nothing
    else, nothing twice, nothing out of order — whichever frames the layers above failed on, whatever the chunking. -/
theorem C12_source_handed_is_prefix (bad : Bytes → Bool) (fs : List Bytes) (hfs : FramesOK fs) (cs : List Bytes) (tail : Bytes)
    (hcs : cs.flatten ++ tail = stream fs) :
    ∃ rest, (runFSrc bad {} cs).handed ++ rest = fs := by
  rw [runFSrc_is_runF]; exact C12_seg_handed_is_prefix bad fs hfs cs tail hcs

/-- Liveness for the current source: once the whole stream has arrived, one further call per failing frame hands up every frame, each exactly
    once and in order; each failing frame raised exactly once; the buffer is empty. -/
theorem C12_source_all_handed_after_retries (bad : Bytes → Bool) (fs : List Bytes) (hfs : FramesOK fs) (cs : List Bytes)
    (hcs : cs.flatten = stream fs) (n : Nat) (hn : (fs.filter bad).length ≤ n) :
    runFSrc bad {} (cs ++ List.replicate n []) = { buf := [], handed := fs, raises := (fs.filter bad).length } := by
  rw [runFSrc_is_runF]; exact C12_seg_all_handed_after_retries bad fs hfs cs hcs n hn

/-- The same with later traffic instead of empty reads, for the current source: more fault-free frames arriving afterwards, one per read and more of
    them than frames failed, and everything has been handed up once and in order. -/
theorem C12_source_all_handed_after_later_frames (bad : Bytes → Bool) (fs gs : List Bytes) (hfs : FramesOK fs) (hgs : FramesOK gs)
    (hgood : ∀ g ∈ gs, bad g = false) (cs : List Bytes) (hcs : cs.flatten = stream fs) (hn : (fs.filter bad).length < gs.length) :
    runFSrc bad {} (cs ++ gs.map frame) = { buf := [], handed := fs ++ gs, raises := (fs.filter bad).length } := by
  rw [runFSrc_is_runF]; exact C12_seg_all_handed_after_later_frames bad fs gs hfs hgs hgood cs hcs hn

/-- Without failures the translated failing run is the translated plain run of C05. -/
theorem C12_source_no_failure_is_C05 (cs : List Bytes) :
    (runFSrc (fun _ => false) {} cs).handed = (runSrc init cs).2 ∧ (runFSrc (fun _ => false) {} cs).buf = (runSrc init cs).1.buf := by
  rw [runFSrc_is_runF, runSrc_is_run]
  exact ⟨(C12_seg_no_failure_is_C05 cs).1, (C12_seg_no_failure_is_C05 cs).2.1⟩

/-- non-vacuity: a run of the translated code — three frames, the middle one failing, cut inside the second header, then an empty read -/
example :
    let bad : Bytes → Bool := fun f => f == [8, 9]
    runFSrc bad {} [[0, 0, 1, 7, 0], [0, 2, 8, 9, 0, 0, 1, 5]] = { buf := [0, 0, 1, 5], handed := [[7], [8, 9]], raises := 1 } ∧
    runFSrc bad {} [[0, 0, 1, 7, 0], [0, 2, 8, 9, 0, 0, 1, 5], []] = { buf := [], handed := [[7], [8, 9], [5]], raises := 1 } := by
  decide

end Yow.Segments
