/-
  C13  Encryption key store: durable, and updates are all-or-nothing across crashes.
  The statement skeleton of every store API operation is regenerated on every run by tracing the real code (Gen/StoreOps.lean);
  `kindOf` says what each operation is specified to do, and the regenerated obligations tie the traced skeletons to it.
  Crash atomicity and refinement to the abstract map rest on Lemmas/Store.lean; that an operation refused at a failing
  statement costs no record rests on Lemmas/StoreFault.lean.
-/
import YowsupVerif.Lemmas.Store
import YowsupVerif.Lemmas.StoreFault
import YowsupVerif.Gen.StoreOps
namespace Yow.Store

/-- What each store API operation is specified to do (operation ids as in harness/lib/axo.py):
    0 storeSession, 1 deleteSession, 2 deleteAllSessions, 3 saveIdentity, 4 storePreKey, 5 removePreKey,
    6 setAsSent, 7 storeSignedPreKey, 8 removeSignedPreKey, 9 storeSenderKey, 10 own identity at creation.
    removePreKey does not delete the row: it retires it (the record becomes the tombstone, the id stays). -/
def kindOf : Nat → Option Kind
  | 0 => some (.replace 0) | 1 => some (.remove 0) | 2 => some (.remove 0)
  | 3 => some (.replace 1) | 4 => some (.insertNew 2) | 5 => some (.retire 2)
  | 6 => some (.markSent 2) | 7 => some (.insertNew 3) | 8 => some (.remove 3)
  | 9 => some (.replace 4) | 10 => some (.insertNew 1)
  | _ => none

/-- Regenerated obligation: every traced operation of the current source has one of the shapes
    allowed for its kind (in particular: one transaction; a replace deletes and inserts inside it). -/
theorem C13_ops_have_allowed_shape :
    ∀ e ∈ Yow.Gen.storeOps, ∃ kd, kindOf e.1 = some kd ∧ e.2.2 ∈ allowed kd := by
  decide

/-- … and every operation was traced. -/
theorem C13_all_ops_traced : ∀ op, op < 11 → ∃ e ∈ Yow.Gen.storeOps, e.1 = op := by
  decide

/-- … and the store of the current source has no public writing method besides the traced ones. -/
theorem C13_no_untraced_writer : Yow.Gen.untracedWriters = [] := by decide

/-- "If the process dies at ANY instant": inside a COMMIT the all-or-nothing behaviour is SQLite's (trusted base), and SQLite gives it only
    while its rollback journal or write-ahead log lives on disk.  The store of the current source leaves that in place (regenerated: the
    journal mode read from the opened store's own connection). -/
theorem C13_sqlite_atomic_commit_in_force : Yow.Gen.journalMode ∈ ["delete", "truncate", "persist", "wal"] := by decide

theorem storeOp_allowed (e : Nat × Nat × List Sk) (he : e ∈ Yow.Gen.storeOps) {kd : Kind} (hk : kindOf e.1 = some kd) :
    e.2.2 ∈ allowed kd := by
  obtain ⟨kd', hkd, hal⟩ := C13_ops_have_allowed_shape e he
  cases hk.symm.trans hkd
  exact hal

theorem storeOp_singleTx (e : Nat × Nat × List Sk) (he : e ∈ Yow.Gen.storeOps) : SingleTx e.2.2 = true := by
  obtain ⟨kd, _, h⟩ := C13_ops_have_allowed_shape e he
  exact allowed_singleTx kd e.2.2 h

/-- If the process dies at ANY statement boundary of ANY store operation, the reopened store holds
    either exactly the previous content or exactly the new content (all tables, all records). -/
theorem C13_crash_atomic (e : Nat × Nat × List Sk) (he : e ∈ Yow.Gen.storeOps) (args : List (Nat × Nat)) (db : Db)
    (hdb : db.inTx = false) (p : List Sk) (hp : p <+: e.2.2) :
    (crash (run args db p)).committed = db.committed ∨
    (crash (run args db p)).committed = (run args db e.2.2).committed :=
  crash_singleTx e.2.2 (storeOp_singleTx e he) args db hdb p hp

/-- An existing session / pinned identity / sender key is never lost by a crash while it is being
    replaced: at every crash point the record is the old one or the new one. -/
theorem C13_replace_never_loses (e : Nat × Nat × List Sk) (he : e ∈ Yow.Gen.storeOps) (t : Nat)
    (hk : kindOf e.1 = some (.replace t)) (k v : Nat) (db : Db) (hdb : db.inTx = false)
    (ht : t < db.committed.length) (hu : UniqueKeys db.committed) (p : List Sk) (hp : p <+: e.2.2) :
    lookup (crash (run [(k, v)] db p)).committed t k = lookup db.committed t k ∨
    lookup (crash (run [(k, v)] db p)).committed t k = some (v, false) := by
  rcases C13_crash_atomic e he [(k, v)] db hdb p hp with h | h
  · left; rw [h]
  · obtain ⟨w, hr, W⟩ := replace_effect t k v e.2.2 (storeOp_allowed e he hk) db hdb ht hu
    right; rw [h, hr]; exact W.self

/-- Refinement to the abstract map, per kind of operation (any table content, any key, any value):
    replace … -/
theorem C13_refines_map_replace (e : Nat × Nat × List Sk) (he : e ∈ Yow.Gen.storeOps) (t : Nat)
    (hk : kindOf e.1 = some (.replace t)) (k v : Nat) (db : Db) (hdb : db.inTx = false)
    (ht : t < db.committed.length) (hu : UniqueKeys db.committed) :
    (run [(k, v)] db e.2.2).inTx = false ∧ UniqueKeys (run [(k, v)] db e.2.2).committed ∧
    lookup (run [(k, v)] db e.2.2).committed t k = some (v, false) ∧
    (∀ t' k', (t', k') ≠ (t, k) → lookup (run [(k, v)] db e.2.2).committed t' k' = lookup db.committed t' k') :=
  effect_refines (replace_effect t k v e.2.2 (storeOp_allowed e he hk) db hdb ht hu)

/-- … insert of a new key … -/
theorem C13_refines_map_insert (e : Nat × Nat × List Sk) (he : e ∈ Yow.Gen.storeOps) (t : Nat)
    (hk : kindOf e.1 = some (.insertNew t)) (k v : Nat) (db : Db) (hdb : db.inTx = false)
    (ht : t < db.committed.length) (hu : UniqueKeys db.committed) (hfresh : lookup db.committed t k = none) :
    (run [(k, v)] db e.2.2).inTx = false ∧ UniqueKeys (run [(k, v)] db e.2.2).committed ∧
    lookup (run [(k, v)] db e.2.2).committed t k = some (v, false) ∧
    (∀ t' k', (t', k') ≠ (t, k) → lookup (run [(k, v)] db e.2.2).committed t' k' = lookup db.committed t' k') :=
  effect_refines (insertNew_effect t k v e.2.2 (storeOp_allowed e he hk) db hdb ht hu hfresh)

/-- … removal … -/
theorem C13_refines_map_remove (e : Nat × Nat × List Sk) (he : e ∈ Yow.Gen.storeOps) (t : Nat)
    (hk : kindOf e.1 = some (.remove t)) (k v : Nat) (db : Db) (hdb : db.inTx = false)
    (ht : t < db.committed.length) (hu : UniqueKeys db.committed) :
    (run [(k, v)] db e.2.2).inTx = false ∧ UniqueKeys (run [(k, v)] db e.2.2).committed ∧
    lookup (run [(k, v)] db e.2.2).committed t k = none ∧
    (∀ t' k', (t', k') ≠ (t, k) → lookup (run [(k, v)] db e.2.2).committed t' k' = lookup db.committed t' k') :=
  effect_refines (remove_effect t k v e.2.2 (storeOp_allowed e he hk) db hdb ht hu)

/-- … retiring a one-time prekey: the row stays (so that its id is never handed out again), its key
    material is replaced by the tombstone `v`, flag and all other records untouched (a missing key stays
    missing) … -/
theorem C13_refines_map_retire (e : Nat × Nat × List Sk) (he : e ∈ Yow.Gen.storeOps) (t : Nat)
    (hk : kindOf e.1 = some (.retire t)) (k v : Nat) (db : Db) (hdb : db.inTx = false)
    (ht : t < db.committed.length) (hu : UniqueKeys db.committed) :
    (run [(k, v)] db e.2.2).inTx = false ∧ UniqueKeys (run [(k, v)] db e.2.2).committed ∧
    lookup (run [(k, v)] db e.2.2).committed t k = (lookup db.committed t k).map (fun old => (v, old.2)) ∧
    (∀ t' k', (t', k') ≠ (t, k) → lookup (run [(k, v)] db e.2.2).committed t' k' = lookup db.committed t' k') :=
  effect_refines (retire_effect t k v e.2.2 (storeOp_allowed e he hk) db hdb ht hu)

/-- … and the uploaded flag of one-time prekeys: values untouched, flag set, nothing else changes. -/
theorem C13_refines_map_markSent (e : Nat × Nat × List Sk) (he : e ∈ Yow.Gen.storeOps) (t : Nat)
    (hk : kindOf e.1 = some (.markSent t)) (k0 k1 : Nat) (db : Db) (hdb : db.inTx = false)
    (ht : t < db.committed.length) (hu : UniqueKeys db.committed) :
    (run [(k0, 0), (k1, 0)] db e.2.2).inTx = false ∧ UniqueKeys (run [(k0, 0), (k1, 0)] db e.2.2).committed ∧
    (∀ k, k = k0 ∨ k = k1 → lookup (run [(k0, 0), (k1, 0)] db e.2.2).committed t k
        = (lookup db.committed t k).map (fun x => (x.1, true))) ∧
    (∀ t' k', (t' ≠ t ∨ (k' ≠ k0 ∧ k' ≠ k1)) →
      lookup (run [(k0, 0), (k1, 0)] db e.2.2).committed t' k' = lookup db.committed t' k') := by
  obtain ⟨w, hr, h⟩ := markSent_effect t k0 k1 e.2.2 (storeOp_allowed e he hk) db hdb ht hu
  rw [hr]
  exact ⟨rfl, h⟩

/-- Durability: closing and reopening a store with no operation in progress changes nothing. -/
theorem C13_reopen_is_identity (db : Db) (hdb : db.inTx = false) :
    view (crash db) = view db ∧ (crash db).committed = db.committed :=
  ⟨(view_eq_committed (db := crash db) rfl).trans (view_eq_committed hdb).symm, rfl⟩

def deletesNothing : Sk → Bool
  | .del _ _ => false
  | _ => true

theorem spares_of_deletesNothing (args : List (Nat × Nat)) (t k : Nat) (s : Sk) (h : deletesNothing s = true) :
    spares args t k s = true := by
  cases s with
  | del => cases h
  | _ => rfl

/-- the statements an operation of the current source leaves pending, in a transaction that stays open, when the write statement at
    position `f.2.1` fails (nothing if it rolls back) -/
def pendingAfter (f : Nat × Nat × Bool) : List (List Sk) :=
  if f.2.2 then [] else (Yow.Gen.storeOps.filter (fun e => e.1 == f.1)).map (fun e => e.2.2.take f.2.1)

/-- Regenerated obligation: the probe of the current source covers every write statement of every operation of the store API. -/
theorem C13_fault_probe_covers_every_statement :
    Yow.Gen.storeOps.all (fun e => e.1 == 10 || (List.range e.2.2.length).all (fun j =>
      j == 0 || j + 1 == e.2.2.length || Yow.Gen.faultOutcome.any (fun f => f.1 == e.1 && f.2.1 == j))) = true := by decide

/-- Regenerated obligation: whatever an operation of the current source leaves pending when one of its statements fails contains no DELETE
    (a replacement that fails between its DELETE and its INSERT is rolled back — fix 79f08a3; only setAsSent leaves the first of its two
    flag updates pending). -/
theorem C13_refused_operation_leaves_no_delete_pending :
    ∀ f ∈ Yow.Gen.faultOutcome, ∀ p ∈ pendingAfter f, p.all deletesNothing = true := by decide

/-- A store operation that is refused because one of its statements failed never costs a record: take ANY operation of the current source,
    ANY of its statements failing, ANY database content, ANY record present before, and ANY operations that run on the connection
    afterwards (which commit whatever was left pending) and that do not delete that record themselves — the record is in the database
    file. -/
theorem C13_refused_operation_costs_no_record (e : Nat × Nat × List Sk) (he : e ∈ Yow.Gen.storeOps)
    (f : Nat × Nat × Bool) (hf : f ∈ Yow.Gen.faultOutcome) (hfe : f.1 = e.1) (hj : f.2.1 < e.2.2.length)
    (args : List (Nat × Nat)) (db : Db) (hdb : db.inTx = false) (t k : Nat) (hp : (lookup db.committed t k).isSome = true)
    (later : List (List (Nat × Nat) × List Sk)) (hl : ∀ o ∈ later, ∀ s ∈ o.2, spares o.1 t k s = true)
    (hout : (runOps (runFault f.2.2 args db e.2.2 f.2.1) later).inTx = false) :
    (lookup (runOps (runFault f.2.2 args db e.2.2 f.2.1) later).committed t k).isSome = true := by
  apply runOps_spares_committed t k later hl _ _ hout
  cases hrb : f.2.2 with
  | true =>
    rw [runFault_rolled_back e.2.2 (storeOp_singleTx e he) args db hdb f.2.1 hj, view_eq_committed (db := crash db) rfl]
    exact hp
  | false =>
    have hmem : e.2.2.take f.2.1 ∈ pendingAfter f := by
      simp only [pendingAfter, hrb, Bool.false_eq_true, if_false, List.mem_map, List.mem_filter]
      exact ⟨e, ⟨he, by simp [hfe]⟩, rfl⟩
    have hall := C13_refused_operation_leaves_no_delete_pending f hf _ hmem
    simp only [runFault, Bool.false_eq_true, if_false]
    apply run_spares args t k _ _ db
    · rw [view_eq_committed hdb]; exact hp
    · intro s hs
      exact spares_of_deletesNothing args t k s (List.all_eq_true.mp hall s hs)

/-- Sensitivity (the code before fix 79f08a3): a replacement whose INSERT fails and that is NOT rolled back leaves its DELETE pending; the next
    successful operation on any key commits it and the existing record is gone.  Rolled back, the record stays. -/
theorem C13_pending_delete_is_committed_by_the_next_operation :
    let db0 := run [(11, 0)] empty [.begin, .ins 0 0, .commit]
    lookup db0.committed 0 11 = some (0, false) ∧
    lookup (runOps (runFault false [(11, 1)] db0 [.begin, .del 0 0, .ins 0 0, .commit] 2) [([(5, 5)], [.begin, .ins 2 0, .commit])]).committed 0 11 = none ∧
    lookup (runOps (runFault true [(11, 1)] db0 [.begin, .del 0 0, .ins 0 0, .commit] 2) [([(5, 5)], [.begin, .ins 2 0, .commit])]).committed 0 11 = some (0, false) := by
  decide

/- Non-vacuity: the empty store meets the hypotheses, and an insert into it gives a store in which a record is present. -/
example : empty.inTx = false ∧ (0 : Nat) < empty.committed.length ∧ UniqueKeys empty.committed :=
  ⟨rfl, by decide, empty_unique⟩
example : lookup (run [(7, 70)] empty [.begin, .ins 0 0, .commit]).committed 0 7 ≠ none := by decide

end Yow.Store
