/-
  C14  One-time prekeys: none lost or re-offered between generation, upload and use.
  Property theorems only (lemmas: Lemmas/PreKeys.lean).  Histories are arbitrary sequences of connect /
  authenticated / server asks for keys / upload result / upload error / connection loss / restart / first
  message consuming a key, restricted only by what the server and peers can do (`AllowedRun`: one login
  per connection with the passive flag the stack holds; key requests, replies and messages only on an
  authenticated connection), for any batch size and threshold.
-/
import YowsupVerif.Lemmas.PreKeys
namespace Yow.PreKeys

/-- Every key ever offered to the server is either still stored — with the same key material — or was consumed by a first
    message (so it "stays available locally until a first message consumes it"). -/
theorem C14_offered_key_available_until_consumed (p : Params) (es : List Ev) (ha : AllowedRun p {} es = true) :
    let s := (run p {} es).1
    ∀ kv ∈ s.offered, kv ∈ s.consumed ∨ ∃ r ∈ s.db, r.id = kv.1 ∧ r.key = kv.2 :=
  (inv_reachable p es ha).offered_kept

/-- Every key id ever offered to the server names exactly one key — also after keys were consumed and the store was
    refilled (the consumed keys' rows stay as tombstones, so their ids are never handed out again). -/
theorem C14_offered_id_names_one_key (p : Params) (es : List Ev) (ha : AllowedRun p {} es = true) :
    let s := (run p {} es).1
    ∀ a ∈ s.offered, ∀ b ∈ s.offered, a.1 = b.1 → a = b :=
  (inv_reachable p es ha).offered_unique

/-- Keys whose upload was not confirmed are offered again at the next login, and only those: after ANY history, a
    connect followed by the authenticated event uploads exactly the stored keys that are not marked as sent. -/
theorem C14_unconfirmed_reoffered_next_login (p : Params) (es : List Ev) (ha : AllowedRun p {} es = true) :
    let s1 := (step p (run p {} es).1 .connect).1
    let r := step p s1 (.authed s1.passiveProp)
    (∀ row ∈ s1.db, row.sent = false → ∃ rid keys, Out.upload rid keys ∈ r.2 ∧ (row.id, row.key) ∈ keys) ∧
    (∀ rid keys, Out.upload rid keys ∈ r.2 → ∀ kv ∈ keys, ∃ row ∈ s1.db, row.id = kv.1 ∧ row.key = kv.2 ∧ row.sent = false) :=
  login_offers_pending p _ (inv_reachable p es ha)

/-- A key counts as pending until the server has confirmed an upload containing it and never afterwards (hence confirmed
    keys are not re-offered, by the previous theorem) — for EVERY allowed history, consumption included. -/
theorem C14_sent_iff_confirmed (p : Params) (es : List Ev) (ha : AllowedRun p {} es = true) :
    let s := (run p {} es).1
    (∀ r ∈ s.db, r.sent = true ↔ (r.id, r.key) ∈ s.confirmed) ∧ (∀ kv ∈ s.confirmed, kv ∈ s.offered) :=
  ⟨(inv_reachable p es ha).sent_iff, (inv_reachable p es ha).confirmed_offered⟩

/-- A consumed key cannot be used again: the second first-message naming it is refused; so is any id that names no
    stored key. -/
theorem C14_consumed_unusable (p : Params) (es : List Ev) (ha : AllowedRun p {} es = true) (id : Nat) :
    let s := (run p {} es).1
    (∀ key, Out.decryptOk id key ∈ (step p s (.consume id)).2 →
      (step p (step p s (.consume id)).1 (.consume id)).2 = [.invalidKeyId id]) ∧
    ((∀ r ∈ s.db, r.id ≠ id) → (step p s (.consume id)).2 = [.invalidKeyId id]) :=
  consume_once p _ id

/-- Key ids travel as three big-endian bytes; distinct ids have distinct encodings. -/
theorem C14_id_encoding (a b : Nat) (ha : a < 16777216) (hb : b < 16777216) :
    adjustId a = [a / 65536 % 256, a / 256 % 256, a % 256] ∧ (adjustId a = adjustId b → a = b) :=
  ⟨if_pos ha, adjustId_injective a b (Nat.lt_trans ha (by decide)) (Nat.lt_trans hb (by decide))⟩

/-- The account's registration id (any value below 2^32; generated below 2^31) travels in the same encoding, four bytes wide from
    2^24 on: the bytes are the big-endian digits of the id, so the server reads back exactly the id, and distinct ids differ. -/
theorem C14_id_encoding_wide (a b : Nat) (ha : a < 4294967296) (hb : b < 4294967296) :
    (adjustId a).foldl (fun acc x => acc * 256 + x) 0 = a ∧ (∀ x ∈ adjustId a, x < 256) ∧
    (adjustId a).length = (if a < 16777216 then 3 else 4) ∧ (adjustId a = adjustId b → a = b) := by
  have byte : ∀ m, m % 256 < 256 := fun m => Nat.mod_lt m (by decide)
  refine ⟨decode_adjustId a ha, ?_, ?_, adjustId_injective a b ha hb⟩
  · unfold adjustId
    split <;> simp [byte]
  · exact apply_ite List.length ..

/-- non-vacuity: a history with consumption and a refill; the refill starts above the consumed ids -/
example :
    let es : List Ev := [.connect, .authed true, .consume 4, .consume 3, .consume 2, .connect, .authed true]
    AllowedRun { batch := 4, threshold := 2 } {} es = true ∧
    (run { batch := 4, threshold := 2 } {} es).1.offered.map Prod.fst = [1, 2, 3, 4, 1, 5, 6, 7, 8] := by
  decide

end Yow.PreKeys
