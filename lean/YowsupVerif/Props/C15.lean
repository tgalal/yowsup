/-
  C15  Media encryption: lossless round-trip, tamper detection, WhatsApp-compatible layout.
  Padding and tag lemmas: Lemmas/MediaCipher.lean.  `c : Crypto` are the external primitives
  (HKDF, AES-256-CBC on whole blocks, HMAC-SHA256) with the hypotheses `c.OK`; the theorems about
  rejection name the extra idealisation they need.
-/
import YowsupVerif.Lemmas.MediaCipher
import YowsupVerif.Gen.MediaConsts
namespace Yow.Media

/-- Decrypting what the library encrypted returns exactly the original bytes — every content (any
    length, including 0 and whole multiples of the block), every key, every media kind. -/
theorem C15_roundtrip (c : Crypto) (hc : c.OK) (p refKey info : Bytes) :
    decrypt c (encrypt c p refKey info) refKey info = .ok p := by
  have ht := tag_length c hc (c.hkdf refKey info)
    (c.cbcEnc (keyOf (c.hkdf refKey info)) (ivOf (c.hkdf refKey info)) (pad p))
  simp only [decrypt, encrypt, take_body _ _ ht, drop_tag _ _ ht]
  rw [if_neg (fun h => h rfl), if_neg (fun h => h (by rw [hc.cbc_len, pad_length_mod])),
    hc.cbc_inv _ _ _ (pad_length_mod p), unpad_pad]

/-- Layout: IV = bytes 0..16, key = 16..48, MAC key = 48..80 of the derived secret; the body is the
    CBC encryption of the ALWAYS-padded plaintext, followed by the first 10 bytes of the MAC over
    IV ‖ body; so the length is (⌊n/16⌋+1)·16 + 10 for every n. -/
theorem C15_layout (c : Crypto) (hc : c.OK) (p refKey info : Bytes) :
    encrypt c p refKey info =
      c.cbcEnc (((c.hkdf refKey info).drop 16).take 32) ((c.hkdf refKey info).take 16) (pad p) ++
        (c.mac (((c.hkdf refKey info).drop 48).take 32)
          ((c.hkdf refKey info).take 16 ++
            c.cbcEnc (((c.hkdf refKey info).drop 16).take 32) ((c.hkdf refKey info).take 16) (pad p))).take 10 ∧
    (encrypt c p refKey info).length = (p.length / 16 + 1) * 16 + 10 := by
  refine ⟨rfl, ?_⟩
  rw [encrypt, List.length_append, tag_length c hc, hc.cbc_len, pad_length]

/-- PKCS#7 as used: padding is 1..16 bytes, never 0, and it is unambiguous (whatever the unpadder
    accepts was produced by the padder from exactly the returned plaintext). -/
theorem C15_padding_sound (p d : Bytes) :
    unpad (pad p) = some p ∧ (unpad d = some p → (∀ b ∈ d, b < 256) → pad p = d) :=
  ⟨unpad_pad p, fun h _ => pad_of_unpad d p h⟩

/-- The MAC is checked first: nothing is ever returned for an input whose tag does not verify. -/
theorem C15_mac_checked_first (c : Crypto) (x refKey info : Bytes) :
    (∀ q, decrypt c x refKey info = .ok q →
      x.drop (x.length - 10) = tag c (c.hkdf refKey info) (x.take (x.length - 10))) ∧
    (x.drop (x.length - 10) ≠ tag c (c.hkdf refKey info) (x.take (x.length - 10)) →
      decrypt c x refKey info = .error .invalidMac) :=
  ⟨fun q h => decrypt_ok_verified c x refKey info q h, decrypt_bad_tag c x refKey info⟩

/-- Any modification of the tag is rejected (no idealisation needed). -/
theorem C15_tag_modification_rejected (c : Crypto) (p refKey info t' : Bytes) (hl : t'.length = 10)
    (hne : t' ≠ tag c (c.hkdf refKey info) (c.cbcEnc (keyOf (c.hkdf refKey info)) (ivOf (c.hkdf refKey info)) (pad p))) :
    decrypt c (c.cbcEnc (keyOf (c.hkdf refKey info)) (ivOf (c.hkdf refKey info)) (pad p) ++ t') refKey info
      = .error .invalidMac :=
  decrypt_append_bad_tag c _ t' refKey info hl hne

/-- Any modification of the body is rejected, provided the truncated MAC does not collide on the two
    bodies (named idealisation of HMAC; exercised on real inputs by the correspondence run). -/
theorem C15_body_modification_rejected (c : Crypto) (refKey info body' t : Bytes) (hl : t.length = 10)
    (hnc : tag c (c.hkdf refKey info) body' ≠ t) :
    decrypt c (body' ++ t) refKey info = .error .invalidMac :=
  decrypt_append_bad_tag c body' t refKey info hl fun h => hnc h.symm

/-- A wrong key or a wrong media kind derives a different MAC key; unless the truncated MACs collide
    (named idealisation) the ciphertext is rejected. -/
theorem C15_wrong_key_or_kind_rejected (c : Crypto) (hc : c.OK) (p refKey info refKey' info' : Bytes)
    (hnc : tag c (c.hkdf refKey' info') (c.cbcEnc (keyOf (c.hkdf refKey info)) (ivOf (c.hkdf refKey info)) (pad p))
      ≠ tag c (c.hkdf refKey info) (c.cbcEnc (keyOf (c.hkdf refKey info)) (ivOf (c.hkdf refKey info)) (pad p))) :
    decrypt c (encrypt c p refKey info) refKey' info' = .error .invalidMac :=
  decrypt_append_bad_tag c _ _ refKey' info' (tag_length c hc _ _) fun h => hnc h.symm

/-- Consequently decryption never yields a *different* plaintext for the library's own ciphertext body:
    if anything is returned for `body ++ t`, the tag verified, and then it is the original. -/
theorem C15_never_other_plaintext (c : Crypto) (hc : c.OK) (p refKey info t q : Bytes) (hl : t.length = 10)
    (h : decrypt c (c.cbcEnc (keyOf (c.hkdf refKey info)) (ivOf (c.hkdf refKey info)) (pad p) ++ t) refKey info = .ok q) :
    q = p := by
  have hv := decrypt_ok_verified c _ refKey info q h
  rw [drop_tag _ _ hl, take_body _ _ hl] at hv
  -- so the input is `encrypt c p refKey info` itself
  subst hv
  exact (Except.ok.inj ((C15_roundtrip c hc p refKey info).symm.trans h)).symm

/-- The four HKDF info strings of the current source are WhatsApp's (regenerated each run). -/
theorem C15_info_strings :
    Yow.Gen.mediaInfoImage = "WhatsApp Image Keys".toList.map Char.toNat ∧
    Yow.Gen.mediaInfoAudio = "WhatsApp Audio Keys".toList.map Char.toNat ∧
    Yow.Gen.mediaInfoVideo = "WhatsApp Video Keys".toList.map Char.toNat ∧
    Yow.Gen.mediaInfoDocum = "WhatsApp Document Keys".toList.map Char.toNat := by
  decide +kernel

/- Non-vacuity: a `Crypto` satisfying `OK` exists (identity cipher, constant 32-byte MAC). -/
example : (⟨fun _ _ => [], fun _ _ m => m, fun _ _ m => m, fun _ _ => List.replicate 32 0⟩ : Crypto).OK :=
  ⟨fun _ _ _ _ => rfl, fun _ _ _ => rfl, fun _ _ => List.length_replicate⟩

end Yow.Media
