/-
  C16  Connection lifecycle: login, failure, stream error, keep-alive and reconnect.
  Property theorems only (lemmas: Lemmas/Lifecycle.lean).  All theorems hold for EVERY history over the
  property's alphabet (connect requests, dispatcher connected / closed, disconnect requests, success,
  failure, stream errors of every kind, keep-alive ticks, pongs, loop iterations, application sends),
  for both values of the reconnect option and of the passive flag; dispatcher events may refer to any
  dispatcher (events for unknown or closed ones are no-ops).
-/
import YowsupVerif.Lemmas.Lifecycle
namespace Yow.Life

/-- the structural invariant holds in every reachable state -/
theorem C16_invariant (r p c : Bool) (is : List In) : Inv (run { reconnectOpt := r, passive := p, control := c } is).1 :=
  (run_inv _ (inv_init r p c) is).1

/-- A connect announces itself once and triggers one login attempt; each connection announced as up is
    announced as down exactly once — in every reachable state and for every next event: 'connected' is
    announced exactly when the layer goes from down to up (at most once per event, with exactly one login
    attempt); 'disconnected' is announced at most once per event, only for a connection that was up or being
    established, and always when an up connection goes down. Hence announcements of up and of the matching
    down alternate along every history. -/
theorem C16_up_down_alternate (r p c : Bool) (is : List In) (i : In) :
    let s := (run { reconnectOpt := r, passive := p, control := c } is).1
    let o := step s i
    (o.2.count .up ≤ 1) ∧ (o.2.count .downNear ≤ 1) ∧
    (o.2.count .up = 1 ↔ (s.connected = false ∧ o.1.connected = true)) ∧
    (o.2.count .up = (o.2.filter (fun x => match x with | .authAttempt _ => true | _ => false)).length) ∧
    (o.2.count .downNear = 1 → (s.nstate = .connecting ∨ s.nstate = .connected)) ∧
    (s.connected = true → o.1.connected = false → o.2.count .downNear = 1) :=
  announcements _ (C16_invariant r p c is) i

/-- Nothing is ever written to a connection that is down. -/
theorem C16_no_write_when_down (r p c : Bool) (is : List In) (i : In) (d : Nat)
    (hw : Out.written d ∈ (step (run { reconnectOpt := r, passive := p, control := c } is).1 i).2) :
    let s := (run { reconnectOpt := r, passive := p, control := c } is).1
    s.connected = true ∧ s.cur = some d ∧ ∃ dp : Disp, s.disps[d]? = some dp ∧ dp.established = true ∧ dp.open_ = true :=
  (step_move _ (C16_invariant r p c is) i).2.1.written hw

/-- Transport state is reset so that a later connect starts afresh: in every reachable state in which no connection
    exists or is being established (every dispatcher ever created has been closed), a connect request — from the
    application or as the CONNECT event — creates exactly one new connection attempt. -/
theorem C16_connect_after_all_closed (r p c : Bool) (is : List In)
    (hc : ∀ dp ∈ (run { reconnectOpt := r, passive := p, control := c } is).1.disps, dp.open_ = false) :
    let s := (run { reconnectOpt := r, passive := p, control := c } is).1
    (step s .connectReq).2 = [.created s.disps.length] ∧ (step s .connectEvt).2 = [.created s.disps.length] :=
  have hinv := C16_invariant r p c is
  connect_when_down hinv (hinv.down_of_all_closed hc)

/-- A success reply announces the authenticated state once. -/
theorem C16_authed_announced_once (s : St) : (step s .success).2 = [.authed] := rfl

/-- A login failure is delivered to the application and closes the connection. -/
theorem C16_failure_delivered_and_closed (r p c : Bool) (is : List In)
    (hc : (run { reconnectOpt := r, passive := p, control := c } is).1.nstate = .connected) :
    let s := (run { reconnectOpt := r, passive := p, control := c } is).1
    ∃ d, s.cur = some d ∧ (step s .failure).2 = [.entityFailure, .closed d, .downNear] ∧ (step s .failure).1.connected = false :=
  failure_closes _ (C16_invariant r p c is) hc

/-- A stream error of ANY kind (also unknown kinds) is delivered and closes the connection. -/
theorem C16_stream_error_delivered_and_closed (r p c : Bool) (is : List In) (k : ErrKind)
    (hc : (run { reconnectOpt := r, passive := p, control := c } is).1.nstate = .connected) :
    let s := (run { reconnectOpt := r, passive := p, control := c } is).1
    ∃ d, s.cur = some d ∧ (step s (.streamError k)).2 = [.entityStreamError k, .closed d, .downNear] ∧
      (step s (.streamError k)).1.connected = false :=
  let ⟨d, a, e⟩ := stream_error_closes _ (C16_invariant r p c is) hc k (run_unknownErrRaises _ (inv_init r p c) is)
  ⟨d, a, by rw [e]; exact ⟨rfl, rfl⟩⟩

/-- The application is reconnected automatically after a stream error unless it was a sign-in conflict or
    the reconnect option is off: when the loop delivers the deferred 'disconnected', exactly one new
    connection is created in the first case and none otherwise; transport state is reset (fresh login) and
    the keep-alive is stopped. -/
theorem C16_stream_error_reconnect_policy (r p c : Bool) (is : List In) (k : ErrKind)
    (hc : (run { reconnectOpt := r, passive := p, control := c } is).1.nstate = .connected)
    (hp : (run { reconnectOpt := r, passive := p, control := c } is).1.pendingDown = 0)
    (hf : (run { reconnectOpt := r, passive := p, control := c } is).1.reconnectFlag = false)
    (hb : (run { reconnectOpt := r, passive := p, control := c } is).1.rebootFlag = false) :
    let s := (run { reconnectOpt := r, passive := p, control := c } is).1
    let s2 := (step (step s (.streamError k)).1 .loop)
    s2.2 = (if s.reconnectOpt && k != .conflict then [.downAll, .created s.disps.length] else [.downAll]) ∧
    s2.1.noiseFresh = true ∧ s2.1.pingThread = false :=
  reconnect_policy _ (C16_invariant r p c is) hc k (run_unknownErrRaises _ (inv_init r p c) is) hp hf hb

/- The policy theorem speaks of the option's value in the state the stream error arrives in: an application that changes the option at run
   time (input `setReconnect`) gets the new behaviour from the next stream error on. -/
example : (run { reconnectOpt := true } [.connectReq, .dConnected 0, .success, .setReconnect false, .streamError .ack, .loop]).2 =
    [.created 0, .up, .authAttempt false, .authed, .entityStreamError .ack, .closed 0, .downNear, .downAll] := by decide +kernel
example : (run { reconnectOpt := false } [.connectReq, .dConnected 0, .setReconnect true, .streamError .ack, .loop]).2 =
    [.created 0, .up, .authAttempt false, .entityStreamError .ack, .closed 0, .downNear, .downAll, .created 1] := by decide +kernel

/-- With the encryption control layer in the stack: when the server confirms the key upload of a passive login, the control layer
    reboots the connection — it closes it, and when the loop delivers the deferred 'disconnected' exactly one new connection is
    started, with the passive flag switched off and the reboot flag cleared. -/
theorem C16_control_reboot (r p : Bool) (is : List In)
    (hc : (run { reconnectOpt := r, passive := p, control := true } is).1.nstate = .connected)
    (hp : (run { reconnectOpt := r, passive := p, control := true } is).1.pendingDown = 0)
    (hf : (run { reconnectOpt := r, passive := p, control := true } is).1.reconnectFlag = false)
    (hb : (run { reconnectOpt := r, passive := p, control := true } is).1.rebootFlag = false) :
    let s := (run { reconnectOpt := r, passive := p, control := true } is).1
    let o1 := step s .keysFlushed
    let o2 := step o1.1 .loop
    (∃ d, s.cur = some d ∧ o1.2 = [.closed d, .downNear]) ∧ o2.2 = [.downAll, .created s.disps.length] ∧
    o2.1.rebootFlag = false ∧ o2.1.passive = false ∧ o2.1.nstate = .connecting :=
  -- `hf` and `hb` are not needed: the control layer's connect comes first, and the interface layer's is then ignored
  have _ := hf; have _ := hb
  control_reboot _ (C16_invariant r p true is) (run_control _ (inv_init r p true) is) hc hp

/-- That reboot happens once: in every history the server and the network can produce, a set reboot flag always has its deferred
    'disconnected' still queued, and the next run of the loop clears it — after which reconnects follow the stream-error policy
    (`C16_stream_error_reconnect_policy`, whose hypothesis `rebootFlag = false` this discharges). -/
theorem C16_reboot_flag_is_transient (r p c : Bool) (is : List In)
    (ha : AllowedRun { reconnectOpt := r, passive := p, control := c } is = true) :
    let s := (run { reconnectOpt := r, passive := p, control := c } is).1
    (s.rebootFlag = true → 1 ≤ s.pendingDown) ∧ (step s .loop).1.rebootFlag = false := by
  intro s
  have hj : RebootQueued s := run_rebootQueued _ (inv_init r p c) is ha nofun
  exact ⟨hj, loop_clears s hj⟩

/-- Without the control layer the flag is never set. -/
theorem C16_no_control_no_reboot (r p : Bool) (is : List In) :
    (run { reconnectOpt := r, passive := p, control := false } is).1.rebootFlag = false :=
  run_no_reboot _ (inv_init r p false) is rfl rfl

/-- Keep-alive: never closes while every ping is answered before the next one is due … -/
theorem C16_ping_answered_never_closes (r p c : Bool) (is : List In)
    (ht : (run { reconnectOpt := r, passive := p, control := c } is).1.pingThread = true)
    (ho : (run { reconnectOpt := r, passive := p, control := c } is).1.outstanding = 0) :
    let s := (run { reconnectOpt := r, passive := p, control := c } is).1
    (∀ d, Out.closed d ∉ (step s .pingTick).2) ∧ (step s .pingTick).1.outstanding = 1 ∧
    (step (step s .pingTick).1 (.pong true)).1.outstanding = 0 ∧ (step s .pingTick).1.pingThread = true :=
  ping_answered_never_closes _ ht ho

/-- … through any number of rounds, and whether or not the application's callback for an answer raises: the keep-alive's
    bookkeeping is done before the answer is handed upward, so a failing callback cannot turn into a later 'Ping Timeout'. -/
theorem C16_answered_rounds_never_close (r p c : Bool) (is : List In) (rs : List Bool)
    (ht : (run { reconnectOpt := r, passive := p, control := c } is).1.pingThread = true)
    (ho : (run { reconnectOpt := r, passive := p, control := c } is).1.outstanding = 0) :
    let s := (run { reconnectOpt := r, passive := p, control := c } is).1
    (∀ d, Out.closed d ∉ (run s (answeredRounds rs)).2) ∧ (run s (answeredRounds rs)).1.outstanding = 0 ∧
    (run s (answeredRounds rs)).1.pingThread = true :=
  answered_rounds_never_close rs _ ht ho

example : (run {} ([.connectReq, .dConnected 0, .success] ++ answeredRounds [true, false, true])).2 =
    [.created 0, .up, .authAttempt false, .authed, .pingSent, .written 0, .appRaised, .pingSent, .written 0, .pingSent, .written 0, .appRaised] := by
  decide +kernel

/-- … and closes the connection when a ping is still unanswered at the time the next one is due. -/
theorem C16_ping_timeout_closes (r p c : Bool) (is : List In)
    (ht : (run { reconnectOpt := r, passive := p, control := c } is).1.pingThread = true)
    (ho : 1 ≤ (run { reconnectOpt := r, passive := p, control := c } is).1.outstanding)
    (hc : (run { reconnectOpt := r, passive := p, control := c } is).1.nstate = .connected) :
    let s := (run { reconnectOpt := r, passive := p, control := c } is).1
    ∃ d, s.cur = some d ∧ (step s .pingTick).2 = [.closed d, .downNear] ∧ (step s .pingTick).1.pingThread = false :=
  ping_unanswered_closes _ (C16_invariant r p c is) ht ho hc

/-- When the loop delivers a deferred 'disconnected' announcement to the layers, the keep-alive is stopped and forgets its
    unanswered pings: from then on no ping of an earlier connection counts against a later one. -/
theorem C16_down_resets_keepalive (r p c : Bool) (is : List In)
    (h : 0 < (run { reconnectOpt := r, passive := p, control := c } is).1.pendingDown) :
    let s2 := step (run { reconnectOpt := r, passive := p, control := c } is).1 .loop
    s2.1.outstanding = 0 ∧ s2.1.pingThread = false ∧ Out.downAll ∈ s2.2 :=
  loop_resets_keepalive h

/- Until that announcement is delivered the keep-alive cannot know: a ping written to the closed connection still counts as unanswered when
   the next one is due, even if a new connection is already up.  This is within the property: a ping WAS unanswered. -/
example : (run {} [.connectReq, .dConnected 0, .success, .pingTick, .dClosed 0, .connectReq, .dConnected 1, .pingTick]).2 =
    [.created 0, .up, .authAttempt false, .authed, .pingSent, .written 0, .closed 0, .downNear, .created 1, .up, .authAttempt false,
     .closed 1, .downNear] := by
  decide +kernel

/-- The keep-alive from start to end in one run: a ping answered, one left unanswered, the time-out at the next tick, and the
    deferred 'disconnected', which starts no new connection (only a stream error asks for one). -/
example : (run {} [.connectReq, .dConnected 0, .success, .pingTick, .pong true, .pingTick, .pingTick, .loop]).2 =
    [.created 0, .up, .authAttempt false, .authed, .pingSent, .written 0, .pingSent, .written 0, .closed 0, .downNear, .downAll] := by
  decide +kernel

/-- The reboot in one run: a passive login with the control layer, the upload confirmed, the loop, the second login (not
    passive), then a sign-in conflict: no further connection. -/
example : (run { reconnectOpt := true, passive := true, control := true }
      [.connectReq, .dConnected 0, .success, .keysFlushed, .loop, .dConnected 1, .success, .streamError .conflict, .loop]).2 =
    [.created 0, .up, .authAttempt true, .authed, .closed 0, .downNear, .downAll, .created 1, .up, .authAttempt false, .authed,
     .entityStreamError .conflict, .closed 1, .downNear, .downAll] := by
  decide +kernel

end Yow.Life
