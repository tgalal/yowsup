/-
  C16 (clause "transport state is reset so that a later connect starts a fresh login"), wire side.
  Property theorems only (lemmas: Lemmas/Login.lean).
-/
import YowsupVerif.Lemmas.Login
import YowsupVerif.Gen.LoginCfg
namespace Yow.Login

/-- the current on_auth switches segmentation off before it writes anything (observed by running it on a stack whose
    segmentation switch was left on by an earlier login; Gen/LoginCfg.lean) -/
theorem C16_login_resets_segmentation : Yow.Gen.loginCfg = { resetFirst := true } := by decide

/-- For every history of logins on one stack — whatever state the previous connections left behind — every login puts a
    fresh login on the wire: (routing header raw + routing info as a segment,) the prologue raw, then the client hello as a
    segment. -/
theorem C16_every_login_is_fresh (s : St) (es : List Bool) :
    logins Yow.Gen.loginCfg s es = es.map fresh := by
  rw [C16_login_resets_segmentation]; exact logins_fresh s es

/-- Sensitivity: without the reset the second login's prologue goes out with a length prefix. -/
theorem C16_without_reset_second_login_unreadable :
    logins { resetFirst := false } {} [false, false] = [fresh false, [{ framed := true, piece := .prologue }, { framed := true, piece := .clientHello }]] := by
  decide

end Yow.Login
