/-
  C17  Contact identity keys are pinned: a changed key is never accepted silently.
  Property theorems only (lemmas: Lemmas/Trust.lean).  Histories are arbitrary sequences of
  {key bundle for a contact presenting any identity, first message presenting any identity, ordinary message,
   outgoing message, process restart, automatic trust switched on/off} over any number of contacts.
  `C17_source_decision_table` ties the theorems to the current source: the decision table regenerated by running
  the identity store, `create_session` and the receive layer (Gen/TrustCfg.lean) must be the one the theorems assume.
-/
import YowsupVerif.Lemmas.Trust
import YowsupVerif.Gen.TrustCfg
namespace Yow.Trust

/-- the current source behaves like the table the theorems below are proved for: unknown contact → trusted, same key →
    trusted, different key → refused, saveIdentity replaces, create_session rebuilds the session after auto-trusting, an
    ordinary message that only an earlier session state decrypts has that state's identity checked before the state becomes
    current again -/
theorem C17_source_decision_table : Yow.Gen.trustCfg = Cfg.good := by decide

/-- The first identity key seen for a contact is remembered (by a key bundle or by a first message). -/
theorem C17_first_key_pinned (s : St) (c k : Nat) (h : s.pinned c = none) :
    (step Cfg.good s (.bundle c k)).1.pinned c = some k ∧ (step Cfg.good s (.firstMsg c k)).1.pinned c = some k := by
  have ht : isTrusted Cfg.good s c k = true := (isTrusted_good s c k).2 (Or.inl h)
  simp [step, ht, build_good_pinned]

/-- A key bundle or first message presenting a different identity is refused: nothing changes (the remembered key
    stays, no session for the new identity), the only output is the refusal. -/
theorem C17_changed_key_refused (s : St) (c p k : Nat) (ha : s.autotrust = false) (hp : s.pinned c = some p) (hk : k ≠ p) :
    step Cfg.good s (.bundle c k) = (s, [.refused c k]) ∧ step Cfg.good s (.firstMsg c k) = (s, [.ignored c k]) := by
  have ht : isTrusted Cfg.good s c k = false := not_trusted_of_pinned_ne hp hk
  simp [step, ht, ha]

/-- Over EVERY history that does not switch automatic trust on (restarts included), from any reachable state: the
    remembered key stays in place, every ciphertext sent to the contact is for the remembered identity ("no message
    is encrypted for the new identity"), every message accepted from the contact comes from it, and no identity is
    ever trusted on the contact's behalf. -/
theorem C17_pin_enforced_over_histories (pre es : List Ev) (c p : Nat)
    (ha : (run Cfg.good init pre).1.autotrust = false) (hp : (run Cfg.good init pre).1.pinned c = some p) (hn : NoAutoOn es) :
    let s := (run Cfg.good init pre).1
    (run Cfg.good s es).1.pinned c = some p ∧
    (∀ k, Out.encryptedFor c k ∈ (run Cfg.good s es).2 → k = p) ∧
    (∀ k, Out.delivered c k ∈ (run Cfg.good s es).2 → k = p) ∧
    (∀ k, Out.trusted c k ∉ (run Cfg.good s es).2) :=
  have h := run_noauto _ es (inv_run init pre inv_init) ha hn
  ⟨h.1 c p hp, fun _ hk => h.2 _ hk p hp, fun _ hk => h.2 _ hk p hp, fun _ hk => h.2 _ hk⟩

/-- In every reachable state a stored session belongs to the remembered identity (so what is encrypted is always
    encrypted for the remembered key, with or without automatic trust). -/
theorem C17_session_matches_pin (es : List Ev) : Inv (run Cfg.good init es).1 :=
  inv_run init es inv_init

/-- With automatic trust on, a changed key replaces the old one and messaging resumes: after the bundle the next
    outgoing message is encrypted for the new identity; a first message from the new identity is delivered. -/
theorem C17_autotrust_replaces_and_resumes (s : St) (c k : Nat) (ha : s.autotrust = true) :
    let s1 := (step Cfg.good s (.bundle c k)).1
    s1.pinned c = some k ∧ step Cfg.good s1 (.encrypt c) = (s1, [.encryptedFor c k]) ∧
    (step Cfg.good s (.firstMsg c k)).1.pinned c = some k ∧ Out.delivered c k ∈ (step Cfg.good s (.firstMsg c k)).2 := by
  by_cases ht : isTrusted Cfg.good s c k = true
  · simp [step, ht, build_good_pinned, build_session]
  · simp [step, ht, ha, isTrusted_after_save, build_good_pinned, build_session, save_good_pinned]

/-- A restart changes nothing: the pin (and the decision it implies) is enforced afterwards exactly as before. -/
theorem C17_restart_keeps_pin (s : St) : step Cfg.good s .restart = (s, []) := rfl

/-- Contacts are independent: events about one contact never touch another contact's remembered key or session. -/
theorem C17_contacts_independent (s : St) (e : Ev) (c : Nat) (h : e.about c = false) :
    (step Cfg.good s e).1.pinned c = s.pinned c ∧ (step Cfg.good s e).1.session c = s.session c ∧
    (step Cfg.good s e).1.archived c = s.archived c :=
  have f := step_frame Cfg.good s e c h
  ⟨f.pinned, f.session, f.archived⟩

/-- A contact that goes back to an identity it had before (a restored backup) is a contact with a changed identity: an ordinary
    message that only the session state of that earlier identity decrypts is not accepted while another identity is remembered and
    automatic trust is off — nothing changes (in particular the stored session is not switched back, so nothing is encrypted for
    that identity afterwards). -/
theorem C17_message_on_an_earlier_identitys_session_refused (s : St) (hi : Inv s) (c p k : Nat) (ha : s.autotrust = false)
    (hp : s.pinned c = some p) (hk : k ≠ p) :
    (step Cfg.good s (.msgIn c k)).1 = s ∧ Out.delivered c k ∉ (step Cfg.good s (.msgIn c k)).2 := by
  have hs : s.session c ≠ some k := by
    intro h
    have := hi.session_pin c k h
    rw [hp] at this; exact hk (Option.some.inj this).symm
  have ht : isTrusted Cfg.good s c k = false := not_trusted_of_pinned_ne hp hk
  by_cases hm : k ∈ s.archived c <;> simp [step, hs, hm, ht, ha]

/-- ... and with automatic trust on it is a changed key like any other: the earlier identity becomes the remembered one again, the message
    is delivered and the next outgoing message is encrypted for it. -/
theorem C17_autotrust_accepts_the_earlier_identity_again (s : St) (hi : Inv s) (c k : Nat) (ha : s.autotrust = true)
    (hk : k ∈ s.archived c) (hs : s.session c ≠ some k) :
    let r := step Cfg.good s (.msgIn c k)
    r.1.pinned c = some k ∧ Out.delivered c k ∈ r.2 ∧ step Cfg.good r.1 (.encrypt c) = (r.1, [.encryptedFor c k]) := by
  have hpn : s.pinned c ≠ none := fun h0 => by rw [hi.archived_nil c h0] at hk; cases hk
  by_cases ht : isTrusted Cfg.good s c k = true
  · have hp : s.pinned c = some k := by
      rcases (isTrusted_good s c k).1 ht with h0 | h1
      · exact absurd h0 hpn
      · exact h1
    simp [step, hs, hk, ht, setSession_pinned, setSession_session, hp]
  · simp [step, hs, hk, ht, ha, isTrusted_after_save, setSession_pinned, setSession_session, save_good_pinned]

/-- The pin consulted for an incoming message is its AUTHOR's: the participant whenever the stanza names one, whatever the chat
    it arrives in looks like (group, status update, broadcast list), and the chat partner otherwise — so two stanzas from the same
    author are checked against the same pin however they are carried. -/
theorem C17_pin_is_looked_up_under_the_author {J : Type} (chat chat' p : J) :
    author chat (some p) = p ∧ author chat' (some p) = author chat (some p) ∧ author chat (none : Option J) = chat :=
  ⟨rfl, rfl, rfl⟩

/-- Sensitivity (the code before fix ad68852: python-axolotl's decryptMsg alone): without the check, one ordinary message from the identity
    the contact had BEFORE switches the stored session back — the next outgoing message is encrypted for identity 1 although identity 2 is
    the remembered one and automatic trust is off. -/
theorem C17_unchecked_earlier_session_switches_back :
    let r := run { Cfg.good with checksOldSessions := false } init [.setAuto true, .bundle 0 1, .bundle 0 2, .setAuto false, .msgIn 0 1, .encrypt 0]
    r.1.pinned 0 = some 2 ∧ r.1.autotrust = false ∧ Out.delivered 0 1 ∈ r.2 ∧ Out.encryptedFor 0 1 ∈ r.2 := by
  decide

/-- Sensitivity (why the decision table is an obligation): a store that answers "trusted" for a different key lets a
    changed identity replace the pin silently — and a manager that does not rebuild the session after trusting leaves
    messaging on the old identity. -/
theorem C17_lenient_store_breaks_pin :
    (run { Cfg.good with trustOther := true } init [.bundle 0 1, .bundle 0 2]).1.pinned 0 = some 2 ∧
    (run { Cfg.good with rebuildAfterTrust := false } init [.setAuto true, .bundle 0 1, .bundle 0 2, .encrypt 0]).2
      = [.built 0 1, .trusted 0 2, .encryptedFor 0 1] := by
  decide

/-- non-vacuity: a reachable state with a pin and automatic trust off -/
example : (run Cfg.good init [.bundle 0 1]).1.autotrust = false ∧ (run Cfg.good init [.bundle 0 1]).1.pinned 0 = some 1 := by decide

/-- non-vacuity of the two theorems about an earlier identity: a reachable state (so `Inv` holds) in which identity 2 is remembered and a
    session state of identity 1 is still in the record -/
example : let s := (run Cfg.good init [.setAuto true, .bundle 0 1, .bundle 0 2]).1
    s.pinned 0 = some 2 ∧ 1 ∈ s.archived 0 ∧ s.session 0 ≠ some 1 := by decide

end Yow.Trust
