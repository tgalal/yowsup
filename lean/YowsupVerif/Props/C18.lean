/-
  C18  Stack assembly and event propagation work for every composition.
  `arr` is the stack bottom-first; `construct arr false` is what `YowStack(arr, reversed=False)` builds
  (the builder and the default helpers use this form); `construct arr true` is the top-first convention.
  The proofs are in Lemmas/Stack.lean.
-/
import YowsupVerif.Lemmas.Stack
import YowsupVerif.Gen.DefaultLayers
namespace Yow.Stack

/-- Wiring: the layers are in the given order; each instance's upper/lower neighbours are the
    adjacent slots; both order conventions give the same stack. -/
theorem C18_wiring (arr : List Slot) (i : Nat) (hi : i < arr.length) :
    (construct arr false).length = arr.length ∧
    (construct arr false)[i]? = some
      { slot := arr[i],
        upper := if i + 1 < arr.length then some (i + 1) else none,
        lower := if 0 < i then some (i - 1) else none } ∧
    construct arr.reverse true = construct arr false := by
  refine ⟨construct_length arr, construct_get arr i hi, ?_⟩
  rw [construct_reversed, List.reverse_reverse]

/-- Data sent from the top is handed down slot by slot in order (every shape, any depth/width). -/
theorem C18_send_visits_in_order (B : Nat → LayerB) (arr : List Slot) (m : Nat) (h : arr ≠ []) :
    sendAt B (construct arr false) arr.length (arr.length - 1) m = specDown B arr.reverse m := by
  have hp := path_lower arr arr.length (Nat.le_refl _)
  rw [if_pos (List.length_pos_iff.mpr h), List.take_length] at hp
  exact sendAt_path B m hp (by rw [List.length_reverse]; exact Nat.le_refl _)

/-- Data received at the bottom is handed up slot by slot in order. -/
theorem C18_receive_visits_in_order (B : Nat → LayerB) (arr : List Slot) (m : Nat) (h : arr ≠ []) :
    recvAt B (construct arr false) arr.length 0 m = specUp B arr m := by
  have hp := path_upper arr arr.length 0 (Nat.zero_add _)
  rw [if_pos (List.length_pos_iff.mpr h)] at hp
  exact recvAt_path B m hp (Nat.le_refl _)

/-- Parallel group: every member is offered the datum, and each member's output continues to the
    group's lower neighbour (likewise upward). -/
theorem C18_parallel_fanout (B : Nat → LayerB) (ls : List Nat) (rest : List Slot) (m : Nat) :
    specDown B (.par ls :: rest) m =
      ls.flatMap (fun l => Ev.sent l m :: ((B l).tx m).flatMap (specDown B rest)) ∧
    specUp B (.par ls :: rest) m =
      ls.flatMap (fun l => Ev.recvd l m :: ((B l).rx m).flatMap (specUp B rest)) := ⟨rfl, rfl⟩

/-- An event emitted by the layer at slot `i` is offered to the slots above it in stack order until
    one consumes it; a broadcast to the slots below, top-down. -/
theorem C18_event_in_order_until_consumed (B : Nat → LayerB) (arr : List Slot) (i ev : Nat) (hi : i < arr.length) :
    emitAt B (construct arr false) (construct arr false).length i ev false
      = ⟨specEvent B ev (arr.drop (i + 1)), none⟩ ∧
    broadcastAt B (construct arr false) (construct arr false).length i ev false
      = ⟨specEvent B ev ((arr.take i).reverse), none⟩ :=
  ⟨emitAt_path B ev (path_upper_of_lt hi) (drop_length_le_construct arr _),
    broadcastAt_path B ev (path_lower_of_lt hi) (take_reverse_length_le_construct arr _)⟩

/-- Emitting through the stack object offers the event to every slot, bottom-up (top-down for
    broadcasts), until consumed. -/
theorem C18_stack_level_events (B : Nat → LayerB) (arr : List Slot) (ev : Nat) :
    stackEmits B (construct arr false) ev false = ⟨specEvent B ev arr, none⟩ ∧
    stackBroadcasts B (construct arr false) ev false = ⟨specEvent B ev arr.reverse, none⟩ :=
  ⟨stackEmits_spec B arr ev, stackBroadcasts_spec B arr ev⟩

/-- Seen exactly once, in stack order: the layers that see an event are a prefix of the flattened
    layer list (no layer twice, none skipped, none out of order); with no consumer it is all of them;
    with a consumer it ends exactly there. -/
theorem C18_event_seen_once_in_order (B : Nat → LayerB) (ev : Nat) (slots : List Slot) :
    (∃ k, specEvent B ev slots = ((slots.flatMap members).take k).map (fun l => Ev.saw l ev)) ∧
    ((∀ l ∈ slots.flatMap members, (B l).consumes ev = false) →
      specEvent B ev slots = (slots.flatMap members).map (fun l => Ev.saw l ev)) := by
  rw [specEvent_eq]
  refine ⟨?_, fun h => by rw [upTo_eq_self h]⟩
  obtain ⟨k, hk⟩ := upTo_prefix (fun l => (B l).consumes ev) (slots.flatMap members)
  exact ⟨k, by rw [hk]⟩

theorem C18_event_stops_at_consumer (B : Nat → LayerB) (ev : Nat) (slots : List Slot) (pre : List Nat) (c : Nat)
    (post : List Nat) (hsplit : slots.flatMap members = pre ++ c :: post)
    (hpre : ∀ l ∈ pre, (B l).consumes ev = false) (hc : (B c).consumes ev = true) :
    specEvent B ev slots = (pre ++ [c]).map (fun l => Ev.saw l ev) := by
  rw [specEvent_eq, hsplit, upTo_split post hpre hc]

/-- Deferred (detached) events: the neighbour sees the event at once, the remaining slots when the
    stack's loop runs the queued callback — in total exactly what a normal event delivers. -/
theorem C18_detached_delivered_by_loop (B : Nat → LayerB) (arr : List Slot) (i ev : Nat) (hi : i < arr.length) :
    (emitAt B (construct arr false) (construct arr false).length i ev true).seen ++
      (match (emitAt B (construct arr false) (construct arr false).length i ev true).deferred with
       | some j => loopRunsEmit B (construct arr false) j ev
       | none => [])
      = specEvent B ev (arr.drop (i + 1)) ∧
    (broadcastAt B (construct arr false) (construct arr false).length i ev true).seen ++
      (match (broadcastAt B (construct arr false) (construct arr false).length i ev true).deferred with
       | some j => loopRunsBroadcast B (construct arr false) j ev
       | none => [])
      = specEvent B ev ((arr.take i).reverse) := by
  have hpos : 0 < (construct arr false).length := by rw [construct_length]; exact Nat.zero_lt_of_lt hi
  exact ⟨emitAt_detached_path B ev (path_upper_of_lt hi) hpos (drop_length_le_construct arr _),
    broadcastAt_detached_path B ev (path_lower_of_lt hi) hpos (take_reverse_length_le_construct arr _)⟩

/-- Interfaces of layers — also inside parallel groups — are found by class. -/
theorem C18_interface_lookup_by_class (B : Nat → LayerB) (c : Nat) (arr : List Slot)
    (h : ∀ l ∈ arr.flatMap members, (B l).cls = c → (B l).iface ≠ none) :
    getInterface B c (construct arr false) =
      ((arr.flatMap members).find? (fun l => (B l).cls = c)).bind (fun l => (B l).iface) := by
  have := getInterface_slots B c (construct arr false)
  rw [construct_slots] at this
  exact this h

/-- The builder is a stack of layers: push appends on top, pop removes the top. -/
theorem C18_builder (ops : List BuilderOp) (s : Slot) :
    builderRun (ops ++ [.push s]) = builderRun ops ++ [s] ∧
    builderRun (ops ++ [.pop]) = (builderRun ops).dropLast := by
  simp only [builderRun, List.foldl_append, List.foldl_cons, List.foldl_nil, builderStep, and_self]

/-- `pushDefaultLayers` puts the default layers on top of whatever the builder holds: every layer pushed before stays where it was,
    below them — at any point of any sequence of builder calls. -/
theorem C18_builder_default_layers_go_on_top (ops : List BuilderOp) (ds : List Slot) :
    builderRun (ops ++ [.extend ds]) = builderRun ops ++ ds ∧ builderRun ops <+: builderRun (ops ++ [.extend ds]) := by
  simp only [builderRun, List.foldl_append, List.foldl_cons, List.foldl_nil, builderStep, true_and]
  exact List.prefix_append _ _

/-! #### Default helpers (table regenerated from the current source on every run) -/

def coreSpec : List Slot := [.single 1, .single 2, .single 3, .single 4, .single 5]
def basicSpec : List Nat := [10, 11, 12, 13, 14, 15, 16, 17, 18, 19, 20]
def protocolSpec (f : Bool × Bool × Bool × Bool) : List Nat :=
  basicSpec ++ (if f.1 then [21] else []) ++ (if f.2.1 then [22] else []) ++
    (if f.2.2.1 then [23] else []) ++ (if f.2.2.2 then [24] else [])
/-- transport + encryption + exactly the selected optional protocol modules -/
def defaultSpec (f : Bool × Bool × Bool × Bool) : List Slot :=
  coreSpec ++ [.single 6, .par [7, 8], .par (protocolSpec f)]

def allFlags4 : List (Bool × Bool × Bool × Bool) :=
  [false, true].flatMap fun a => [false, true].flatMap fun b => [false, true].flatMap fun c =>
    [false, true].map fun d => (a, b, c, d)

/-- All 16 + 32 combinations of the default helpers yield the transport layers, the encryption
    layers and exactly the selected optional modules, in this order. -/
theorem C18_default_helpers :
    Gen.coreLayers = some coreSpec ∧
    (Gen.protocolLayers.map (·.1) = allFlags4 ∧ ∀ e ∈ Gen.protocolLayers, e.2 = some (protocolSpec e.1)) ∧
    (Gen.defaultLayers.map (·.1) = allFlags4 ∧ ∀ e ∈ Gen.defaultLayers, e.2 = some (defaultSpec e.1)) ∧
    (Gen.defaultStack.length = 32 ∧ (Gen.defaultStack.map (·.1)).Nodup ∧
      ∀ e ∈ Gen.defaultStack, e.2 = some (defaultSpec e.1.2)) := by
  decide +kernel

/-- `pushDefaultLayers()` of the current source, probed on seven builders that already hold layers (none, one, two, a parallel group,
    one layer and a parallel group, the default layers themselves, the default layers and one more): it is the model's
    `extend (defaultSpec all)` — what was there stays below. -/
theorem C18_source_pushDefaultLayers_extends :
    Gen.pushDefaultProbe.length = 7 ∧
    ∀ e ∈ Gen.pushDefaultProbe, e.2 = some (builderStep e.1 (.extend (defaultSpec (true, true, true, true)))) := by
  decide +kernel

/- The hypotheses `arr ≠ []` and `i < arr.length` of the theorems above, on stacks with a parallel group. -/
example : ([.single 0, .par [1, 2], .single 3] : List Slot) ≠ [] := by decide
example : (3 : Nat) < ([.single 0, .par [1, 2], .single 3, .single 4] : List Slot).length := by decide

end Yow.Stack
