/-
  C19  Account configuration survives serialisation and is saved atomically.
  Property theorems only (lemmas: Lemmas/Config.lean).  base64 and JSON are parameters; the file
  operations of the save are regenerated by tracing ConfigManager.save of the current source.
-/
import YowsupVerif.Lemmas.Config
import YowsupVerif.Gen.FileOps
namespace Yow.Config

/-- key=value format: every dictionary within the format restriction (keys without `= # ; -`, blanks
    or line breaks; values without `# ;`, line breaks or surrounding blanks) is read back unchanged,
    in order. -/
theorem C19_roundtrip_keyval (kvs : List (Str × Str)) (h : DictOK kvs) : parse (render kvs) = some kvs :=
  parse_render kvs h

/-- … and through the file in between: what Python's text mode hands back on reading (every `\r\n` and lone `\r` turned into `\n`) is
    what was written, so the round trip holds for the file as long as no key or value contains a carriage return — which is, like the line
    feed, a line break of this format. -/
theorem C19_roundtrip_keyval_through_text_file (kvs : List (Str × Str)) (h : DictOK kvs) (hcr : NoCR kvs) :
    parse (readText (render kvs)) = some kvs := by
  rw [readText_id _ (render_noCR kvs hcr)]
  exact C19_roundtrip_keyval kvs h

/-- Sensitivity: a carriage return inside a value is outside the format — the entry comes back cut in two. -/
theorem C19_carriage_return_splits_an_entry :
    parse (readText (render [([107], [97, 13, 98, 61, 99])])) = some [([107], [97]), ([98], [99])] := by decide +kernel

/-- JSON format: for any injective codec (json.loads ∘ json.dumps = id is the hypothesis) the pipeline
    output is read back unchanged. -/
theorem C19_roundtrip_json {α : Type} (dumps : α → Str) (loads : Str → Option α)
    (hj : ∀ d, loads (dumps d) = some d) (d : α) : loads (dumps d) = some d := hj d

/-- The transform pipeline is lossless for every configuration: any subset of fields set, binary
    fields (client key pair, server key, id, expid, routing info) byte-identical given
    `b64decode ∘ b64encode = id`, unset fields stay unset. -/
theorem C19_binary_fields_byte_identical (b : B64) (hb : ∀ x, b.dec (b.enc x) = x) (version : Nat)
    (fields : List (Field × Option Val))
    (hnd : (fields.map (fun fv => fv.1.name)).Nodup)
    (hver : ∀ fv ∈ fields, fv.1.name ≠ [95, 95, 118, 101, 114, 115, 105, 111, 110, 95, 95])
    (hty : ∀ fv ∈ fields, ∀ v, fv.2 = some v → (fv.1.binary = true ↔ ∃ x, v = Val.bin x)) :
    deserialize b (fields.map Prod.fst) (serialize b version fields) = fields :=
  deserialize_serialize b hb version fields hnd hver hty

/-- Load paths agree: without a file extension the type is found by trial parsing, key=value first.
    A JSON document written by this library starts with `{` on its own line and is rejected by the
    key=value parser (so it is classified as JSON); a non-empty key=value document is accepted with a
    non-empty dictionary (so it is classified as key=value) — the same decision the extension gives. -/
theorem C19_load_paths_agree (rest : Str) (kvs : List (Str × Str)) (h : DictOK kvs) (hne : kvs ≠ []) :
    parse (123 :: 10 :: rest) = none ∧ ∃ d, parse (render kvs) = some d ∧ d ≠ [] :=
  ⟨parse_brace_fails rest, kvs, parse_render kvs h, hne⟩

/-- Regenerated obligation: the current source saves — into a never-used profile as well as over an
    existing configuration — by writing a temporary file completely and moving it into place. -/
theorem C19_current_save_is_atomic :
    (∃ ops, Yow.Gen.saveTraceFresh = some ops ∧ AtomicSave ops = true) ∧
    (∃ ops, Yow.Gen.saveTraceExisting = some ops ∧ AtomicSave ops = true) := by
  decide +kernel

/-- The same for the save the library itself performs on an existing profile (YowProfile.write_config, called after every handshake),
    whichever of the two formats the profile is stored in: the profile's OWN config file is replaced atomically (since fix 69ae118 a
    key=value profile is saved as key=value; before, config.json was written next to a config.yo that load() went on preferring). -/
theorem C19_profile_save_is_atomic :
    (∃ ops, Yow.Gen.saveTraceProfileJson = some ops ∧ AtomicSave ops = true) ∧
    (∃ ops, Yow.Gen.saveTraceProfileKeyval = some ops ∧ AtomicSave ops = true) := by
  decide +kernel

/-- If the process dies at any file operation of the save (also in the middle of the write), the
    profile's config file holds the previous or the complete new content; a completed save holds the
    new content; a never-used profile is saved without error. -/
theorem C19_crash_atomic_save (new part : Str) (fs : FS) (ops : List FileOp)
    (hops : Yow.Gen.saveTraceExisting = some ops ∨ Yow.Gen.saveTraceFresh = some ops) (k : Nat) :
    ((applyOps new fs (ops.take k)).files 0 = fs.files 0 ∨ (applyOps new fs (ops.take k)).files 0 = some new) ∧
    (k < ops.length →
      (applyTorn new part (applyOps new fs (ops.take k)) (ops.getD k .mkdirs)).files 0 = fs.files 0 ∨
      (applyTorn new part (applyOps new fs (ops.take k)) (ops.getD k .mkdirs)).files 0 = some new) ∧
    (applyOps new fs ops).files 0 = some new := by
  have hat : AtomicSave ops = true := by
    obtain ⟨⟨o1, e1, a1⟩, ⟨o2, e2, a2⟩⟩ := C19_current_save_is_atomic
    rcases hops with h | h
    · rw [e2] at h; cases h; exact a2
    · rw [e1] at h; cases h; exact a1
  obtain ⟨safe, done⟩ := atomicSave_crash new part fs ops hat
  exact ⟨(safe k).1, (safe k).2, done⟩

/-- Why the temporary file is needed (the code before fix 2d63ecf, as a model witness): truncating the
    config file in place leaves it empty at the crash point after `open`. -/
theorem C19_inplace_save_loses_config :
    (applyOps [110] { files := fun p => if p = 0 then some [111] else none, buf := fun _ => [], target := fun p => p }
      ([FileOp.openTrunc 0, .write 0, .close 0].take 2)).files 0 = some [] := by decide +kernel

/-- … and renaming the temporary file before its buffered content is flushed is just as bad. -/
theorem C19_rename_before_flush_loses_config :
    (applyOps [110] { files := fun p => if p = 0 then some [111] else none, buf := fun _ => [], target := fun p => p }
      ([FileOp.openTrunc 1, .write 1, .replace 1 0, .close 1].take 3)).files 0 = some [] := by decide +kernel

/- Non-vacuity: a dictionary inside the format restriction (an empty value, a base64 value with '='). -/
example : DictOK [([99, 99], [52, 57]), ([105, 100], [89, 87, 74, 106, 61, 61]), ([112], [])] := by
  refine ⟨?_, by decide⟩
  intro kv hkv
  simp only [List.mem_cons, List.mem_nil_iff, or_false] at hkv
  rcases hkv with h | h | h <;> subst h <;> refine ⟨⟨by decide, by decide⟩, by decide, ?_, ?_⟩ <;>
    intro c hc <;> cases hc <;> decide

end Yow.Config
