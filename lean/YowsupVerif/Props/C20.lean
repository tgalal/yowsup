/-
  C20  Registration requests: token, parameter encoding and encryption are correct.
  Percent-encoding and the parameter string: Lemmas/Registration.lean.
-/
import YowsupVerif.Lemmas.Registration
import YowsupVerif.Gen.RegConsts
namespace Yow.Reg

/-- For every phone string the hand-rolled construction equals RFC 2104 HMAC — for ANY hash function
    with 64-byte blocks (SHA-1 in the code) — keyed with the first 64 bytes of the key, over
    signature ‖ classes-digest ‖ phone. -/
theorem C20_token_is_hmac (H : Bytes → Bytes) (key sig cls phone : Bytes) (hk : 64 ≤ key.length) :
    tokenRaw H key sig cls phone = hmac H (key.take 64) (sig ++ cls ++ phone) := by
  have hl : (key.take 64).length = 64 := by
    rw [List.length_take]; exact Nat.min_eq_left hk
  unfold tokenRaw hmac xorPad
  simp only [hl, Nat.lt_irrefl, if_false, Nat.sub_self, List.replicate_zero, List.append_nil]

/-- … and the key constant of the current source is long enough (regenerated each run). -/
theorem C20_current_key_length : 64 ≤ Yow.Gen.regKey.length ∧ ∀ b ∈ Yow.Gen.regKey, b < 256 := by
  decide +kernel

/-- The requests are made for the number without its country code — exactly that prefix is removed, whatever digits
    follow (the country code's digits may occur again inside the national number) — and their token is the keyed
    hash of that national number. -/
theorem C20_request_number (cc nat : Bytes) : nationalOf cc (cc ++ nat) = nat := by
  rw [nationalOf, List.drop_left]

theorem C20_request_token (H : Bytes → Bytes) (sig cls cc nat : Bytes) :
    requestToken H Yow.Gen.regKey sig cls cc (cc ++ nat) = hmac H (Yow.Gen.regKey.take 64) (sig ++ cls ++ nat) := by
  rw [requestToken, C20_request_number, C20_token_is_hmac H Yow.Gen.regKey sig cls nat C20_current_key_length.1]

/-- Every byte-string value is percent-encoded so that standard decoding returns it unchanged … -/
theorem C20_pct_roundtrip_bytes (bs : Bytes) (hb : ∀ b ∈ bs, b < 256) :
    pctDecode (urlencodeBytes bs) = bs :=
  pctDecode_append_nil (pctDecode_urlencodeBytes bs hb [])

/-- … every text value decodes to its UTF-8 encoding (all Unicode scalar values) … -/
theorem C20_pct_roundtrip_text (cps : List Nat) (hc : ∀ c ∈ cps, c < 0x110000) :
    pctDecode (urlencodeStr cps) = cps.flatMap utf8 :=
  pctDecode_append_nil <| pctDecode_flatMap (fun c => urlencodeBytes (utf8 c)) utf8 cps
    (fun c h rest => pctDecode_urlencodeBytes _ (utf8_bytes c (hc c h)) rest) []

/-- … and only `[A-Za-z0-9.]` is left literal (everything else is `%` + lower-case hex). -/
theorem C20_only_alnum_dot_literal (bs : Bytes) (hb : ∀ b ∈ bs, b < 256) :
    ∀ c ∈ urlencodeBytes bs, isLiteral c = true ∨ c = 37 :=
  have _ := hb
  urlencodeBytes_chars bs

/-- The parameter string keeps the parameters in their original order and parses back to them. -/
theorem C20_params_order_kept (ps : List (List Nat × Bytes)) (hne : ps ≠ [])
    (hk : ∀ kv ∈ ps, (∀ c ∈ kv.1, c ≠ 38 ∧ c ≠ 61) ∧ (∀ b ∈ kv.2, b < 256)) :
    parseParams ps.length (urlencodeParams ps) = ps :=
  parseParams_urlencodeParams ps hne hk ps.length (Nat.le_refl _)

/-- With the private key matching the server key used, the blob decrypts to exactly the encoded
    parameter string (X25519 symmetry and AEAD correctness are the hypotheses `c.OK`). -/
theorem C20_blob_decrypts (c : Crypto) (hc : c.OK) (eph srv : Bytes) (params : List (List Nat × Bytes)) :
    openBlob c srv (encryptParams c eph params (c.pubOf srv)) = some (urlencodeParams params) := by
  unfold openBlob encryptParams
  rw [List.take_left' (hc.pub_len eph), List.drop_left' (hc.pub_len eph), hc.dh_sym srv eph, hc.open_seal]

/-- The server key the requests are encrypted to is WhatsApp's (reference value; regenerated each run). -/
theorem C20_server_key :
    Yow.Gen.encPubKey = [5, 142, 140, 15, 116, 195, 235, 197, 215, 166, 134, 92, 108, 60, 132, 56, 86, 176,
      97, 33, 204, 232, 234, 119, 77, 34, 251, 111, 18, 37, 18, 48, 45] ∧ Yow.Gen.regSigLen = 822 ∧
    Yow.Gen.regCls = [90, 225, 71, 215, 204, 151, 41, 21, 94, 207, 44, 16, 155, 228, 182, 224] :=
  ⟨rfl, rfl, rfl⟩

/- The hypotheses of `C20_params_order_kept` hold of the parameter list `cc=49`, and a `Crypto` satisfying `OK` exists. -/
example : ([([99, 99], [52, 57])] : List (List Nat × Bytes)) ≠ [] ∧
    ∀ kv ∈ ([([99, 99], [52, 57])] : List (List Nat × Bytes)), (∀ c ∈ kv.1, c ≠ 38 ∧ c ≠ 61) ∧ (∀ b ∈ kv.2, b < 256) := by
  decide +kernel
example : (⟨fun a => List.replicate 32 (a.length), fun a b => [a.length + b.headD 0], fun _ m => m, fun _ m => some m⟩ : Crypto).OK :=
  ⟨fun a b => congrArg (fun n => [n]) (Nat.add_comm a.length b.length), fun _ _ => rfl,
    fun _ => List.length_replicate⟩

end Yow.Reg
