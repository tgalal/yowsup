/-
  Composition of the transport path, sender stack to receiver stack (rests on Props/C01 and Props/C05):

      coder.send (encodeFrame)  →  noise (seal with the next counter)  →  segments.send (3-byte header + payload)
      ~~ network: any split / coalescing of the byte stream ~~
      segments.receive (peel)   →  noise (open with the next counter)  →  coder.receive (decodeFrame)

  The cipher is a parameter: any pair `wrap`/`unwrap` that inverts per counter (C15 / the Noise library's contract).
  The statement joins C01 (codec round trip) and C05 (any chunking) into the end-to-end contract the properties C01,
  C02 and C05 speak about from their three sides: whatever list of well-formed stanzas the sender's stack writes, and
  however the network cuts the bytes, the receiver's stack hands upward exactly those stanzas, in order, and nothing else.
-/
import YowsupVerif.Props.C01
import YowsupVerif.Props.C05
namespace Yow.Pipeline
open Yow.Coder Yow.Segments

/-- what the sender's stack writes for the stanzas `ns`, frame `i` sealed with counter `i` -/
def sentFrames (d : Dict) (wrap : Nat → Bytes → Bytes) (k : Nat) : List Node → List Bytes
  | [] => []
  | n :: ns => wrap k (encodeFrame d n) :: sentFrames d wrap (k + 1) ns

/-- what the receiver's stack hands to the protocol layers for the frames the segment layer delivered -/
def received (d : Dict) (inflate : Bytes → Option Bytes) (unwrap : Nat → Bytes → Bytes) (k : Nat) : List Bytes → List (Except Err Node)
  | [] => []
  | f :: fs => decodeFrame d inflate (unwrap k f) :: received d inflate unwrap (k + 1) fs

theorem received_sentFrames (d : Dict) (hd : d.WF) (inflate : Bytes → Option Bytes) (wrap unwrap : Nat → Bytes → Bytes)
    (hinv : ∀ k x, unwrap k (wrap k x) = x) (ns : List Node) (hn : ∀ n ∈ ns, WFNode d n) (k : Nat) :
    received d inflate unwrap k (sentFrames d wrap k ns) = ns.map .ok := by
  induction ns generalizing k with
  | nil => rfl
  | cons n ns ih =>
    simp only [sentFrames, received, List.map_cons, hinv]
    rw [C01_roundtrip d hd inflate n (hn n (by simp)), ih (fun m hm => hn m (by simp [hm]))]

/-- End to end: every list of well-formed stanzas, every admissible dictionary, every invertible per-counter cipher whose
    sealed frames fit the 24-bit frame limit, every way the network chunks the byte stream: the receiver's protocol layers
    get exactly the stanzas sent, in order; the segment layer's buffer is empty afterwards. -/
theorem stanzas_survive_transport (d : Dict) (hd : d.WF) (inflate : Bytes → Option Bytes) (wrap unwrap : Nat → Bytes → Bytes)
    (hinv : ∀ k x, unwrap k (wrap k x) = x) (ns : List Node) (hn : ∀ n ∈ ns, WFNode d n)
    (hsz : FramesOK (sentFrames d wrap 0 ns)) (cs : List Bytes) (hcs : cs.flatten = stream (sentFrames d wrap 0 ns)) :
    received d inflate unwrap 0 (run init cs).2 = ns.map .ok ∧ (run init cs).1.buf = [] := by
  rw [C05_any_chunking _ hsz cs hcs]
  exact ⟨received_sentFrames d hd inflate wrap unwrap hinv ns hn 0, rfl⟩

/-- The same for the WhatsApp dictionary of the current source. -/
theorem stanzas_survive_transport_wa (inflate : Bytes → Option Bytes) (wrap unwrap : Nat → Bytes → Bytes)
    (hinv : ∀ k x, unwrap k (wrap k x) = x) (ns : List Node) (hn : ∀ n ∈ ns, WFNode Gen.waDict n)
    (hsz : FramesOK (sentFrames Gen.waDict wrap 0 ns)) (cs : List Bytes) (hcs : cs.flatten = stream (sentFrames Gen.waDict wrap 0 ns)) :
    received Gen.waDict inflate unwrap 0 (run init cs).2 = ns.map .ok ∧ (run init cs).1.buf = [] :=
  stanzas_survive_transport Gen.waDict C01_waDict_WF inflate wrap unwrap hinv ns hn hsz cs hcs

/-- A stream cut inside a later frame (connection lost mid-frame): everything complete before the cut is received, the rest is not. -/
theorem stanzas_survive_cut (d : Dict) (hd : d.WF) (inflate : Bytes → Option Bytes) (wrap unwrap : Nat → Bytes → Bytes)
    (hinv : ∀ k x, unwrap k (wrap k x) = x) (ns : List Node) (hn : ∀ n ∈ ns, WFNode d n)
    (hsz : FramesOK (sentFrames d wrap 0 ns)) (g tail rest : Bytes) (hg : 0 < g.length ∧ g.length < 16777216) (hrest : rest ≠ [])
    (hcut : tail ++ rest = frame g) (cs : List Bytes) (hcs : cs.flatten = stream (sentFrames d wrap 0 ns) ++ tail) :
    received d inflate unwrap 0 (run init cs).2 = ns.map .ok := by
  rw [C05_any_chunking_cut _ hsz g tail rest hg hrest hcut cs hcs]
  exact received_sentFrames d hd inflate wrap unwrap hinv ns hn 0

/- Non-vacuity: two concrete stanzas, the identity cipher and a chunking that cuts inside the second header meet the hypotheses. -/
def exNode : Node := .mk [116] [] none []
theorem exNode_wf : WFNode exDict exNode :=
  WFNode.mk _ _ _ _ exDict_t exAttrs (by intro b hb; cases hb) (by decide) (by decide) WFNodes.nil
example :
    (∀ n ∈ [exNode, exNode], WFNode exDict n) ∧ FramesOK (sentFrames exDict (fun _ x => x) 0 [exNode, exNode]) ∧
    ([[0, 0, 4, 0, 248, 1], [3, 0], [0, 4, 0, 248, 1, 3]] : List Bytes).flatten = stream (sentFrames exDict (fun _ x => x) 0 [exNode, exNode]) := by
  refine ⟨?_, ?_, by decide +kernel⟩
  · intro n hn; simp at hn; subst hn; exact exNode_wf
  · intro f hf; revert f; decide +kernel

end Yow.Pipeline
